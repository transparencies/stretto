import StrettoModel.Model.Lts
import StrettoModel.Proofs.Cache
/-!
# One step of the transition system

`step_induction` is the case analysis every invariant over `Cache.step` starts from. `step_entry` and
`step_inflight` say what a step can do to the entry under an index and to the items on their way to
the processor; the provenance, origin and isolation theorems are read off them.
-/
namespace Stretto
open Cache

namespace Cache

theorem procItem_some {su : Nat → Nat → Bool} {est : Nat → Int} {refills : List (List (Nat × Int))}
    {c c' : Cache} (h : c.procItem su est refills = some c') :
    c.procExited = false ∧ ∃ it rest, c.buf = it :: rest ∧
      c' = (({ c with buf := rest } : Cache).admitPending).handleItem su est refills it := by
  unfold procItem at h
  split at h
  · cases h
  · split at h
    · cases h
    · cases h; exact ⟨Bool.eq_false_iff.mpr ‹_›, _, _, ‹_›, rfl⟩

/-- a served clear request: buffered `New` values go to `on_evict`, buffered waiters and the requester are
released (`drainItem`), everything else is as in a new cache -/
theorem procClear_some {c c' : Cache} (h : c.procClear = some c') :
    c.procExited = false ∧ ∃ id rest, c.clearQ = id :: rest ∧
      c' = { c.buf.foldl drainItem { c with buf := [], clearQ := rest } with
        lfu := c.lfu.clear, store := Store.empty, metrics := {},
        released := id :: (c.buf.foldl drainItem { c with buf := [], clearQ := rest }).released } := by
  unfold procClear at h
  split at h
  · cases h
  · split at h
    · cases h
    · cases h; exact ⟨Bool.eq_false_iff.mpr ‹_›, _, _, ‹_›, by simp [Lfu.clear, Store.clear]⟩

theorem procTick_some {now : Nat} {order : List (Nat × Nat)} {c c' : Cache}
    (h : c.procTick now order = some c') :
    c.procExited = false ∧
      c' = ((({ c with store := { c.store with em := (c.store.em.tryCleanup now).1 } } : Cache).sweepKeys
              now order []).1).deliverEvictions
            (({ c with store := { c.store with em := (c.store.em.tryCleanup now).1 } } : Cache).sweepKeys
              now order []).2.reverse := by
  unfold procTick at h
  split at h
  · cases h
  · cases h; exact ⟨Bool.eq_false_iff.mpr ‹_›, rfl⟩

theorem procStop_some {c c' : Cache} (h : c.procStop = some c') :
    c.procExited = false ∧
      c' = { c with
        procExited := true, buf := [], clearQ := [],
        released := c.clearQ ++ c.buf.filterMap (fun | .wait id => some id | _ => none) ++ c.released } := by
  unfold procStop at h
  split at h
  · cases h
  · cases h; exact ⟨Bool.eq_false_iff.mpr ‹_›, rfl⟩

end Cache

/-- **Case analysis of one step.** To prove `motive a c'` for every `c.step su a = some c'` it suffices
to prove it for the successor state of each action, under what enabledness gives. -/
theorem step_induction {su : Nat → Nat → Bool} {c c' : Cache} {a : Act} {motive : Act → Cache → Prop}
    (hs : c.step su a = some c')
    (insert : ∀ k cf v cost ttl now coster only,
      motive (.insert k cf v cost ttl now coster only) (c.insert su k cf v cost ttl now coster only).1)
    (get : ∀ k cf now, motive (.get k cf now) (c.get k cf now).1)
    (getMut : ∀ k cf now v, motive (.getMut k cf now v) (c.getMutWrite k cf now v).1)
    (remove : ∀ k cf, motive (.remove k cf) (c.remove k cf).1)
    (waitEnq : ∀ id, motive (.waitEnq id) (c.waitEnq id).1)
    (clearReq : ∀ id, motive (.clearReq id) (c.clearReq id).1)
    (closeBegin : ∀ id, motive (.closeBegin id) (c.closeBegin id).1)
    (updateMaxCost : ∀ mc, motive (.updateMaxCost mc) { c with lfu := c.lfu.updateMaxCost mc })
    (procItem : ∀ est refills c', c.procItem su est refills = some c' → motive (.procItem est refills) c')
    (procClear : ∀ c', c.procClear = some c' → motive .procClear c')
    (procTick : ∀ now order c', c.procTick now order = some c' → motive (.procTick now order) c')
    (procStop : ∀ c', c.procStop = some c' → motive .procStop c')
    (policyWorker : ∀ b rest, c.pq = b :: rest → motive .policyWorker { c with pq := rest })
    (policyClose : motive .policyClose { c with policyClosed := true }) : motive a c' := by
  cases a with
  | insert => cases hs; exact insert ..
  | get => cases hs; exact get ..
  | getMut => cases hs; exact getMut ..
  | remove => cases hs; exact remove ..
  | waitEnq => cases hs; exact waitEnq ..
  | clearReq => cases hs; exact clearReq ..
  | closeBegin => cases hs; exact closeBegin ..
  | updateMaxCost => cases hs; exact updateMaxCost ..
  | procItem => exact procItem _ _ _ hs
  | procClear => exact procClear _ hs
  | procTick => exact procTick _ _ _ hs
  | procStop => exact procStop _ hs
  | policyWorker =>
    simp only [Cache.step, Cache.policyWorkerStep] at hs
    split at hs
    · cases hs
    · cases hs; exact policyWorker _ _ ‹_›
  | policyClose => cases hs; exact policyClose

/-- what one step can do to the entry under index `j` -/
inductive EntryStep (su : Nat → Nat → Bool) (c : Cache) (j : Nat) : Act → Option Entry → Prop
  | same (a : Act) : EntryStep su c j a (c.store.items.get j)
  | gone (a : Act) : EntryStep su c j a none
  | update {e : Entry} {cf v : Nat} {cost : Int} {ttl now : Nat} {coster : Int} {only : Bool} :
      c.store.items.get j = some e → Store.conflictOk cf e = true → su e.val v = true →
      EntryStep su c j (.insert j cf v cost ttl now coster only) (some { e with val := v, exp := ⟨ttl, now⟩ })
  | write {e : Entry} {cf now v : Nat} : c.store.lookup j cf now = some e →
      EntryStep su c j (.getMut j cf now v) (some { e with val := v })
  | admit {est : Nat → Int} {refills : List (List (Nat × Int))} {cf : Nat} {cost : Int} {v : Nat} {exp : Time}
      {rest : List Item} : c.buf = Item.new j cf cost v exp :: rest →
      (policyAdd c.lfu est j (c.internalCost cost) refills).added = true →
      EntryStep su c j (.procItem est refills) (some ⟨cf, v, exp⟩)

theorem step_entry {su : Nat → Nat → Bool} {c c' : Cache} {a : Act} (hs : c.step su a = some c') (j : Nat) :
    EntryStep su c j a (c'.store.items.get j) := by
  apply step_induction (motive := fun a c' => EntryStep su c j a (c'.store.items.get j)) hs
  case insert =>
    intro k cf v cost ttl now coster only
    rcases insert_cases c su k cf v cost ttl now coster only with
      ⟨e, -, hg, hc, hsu, h⟩ | ⟨-, -, h⟩ | ⟨-, -, h⟩ | h
    · rw [h]; dsimp only; rw [KMap.get_set]
      split
      · subst_vars; exact .update hg hc hsu
      · exact .same _
    all_goals (rw [h]; simpa using .same _)
  case get => intros; simpa using .same _
  case getMut =>
    intro k cf now v
    rcases Bool.eq_false_or_eq_true c.closed with h | h
    · simpa [getMutWrite, h] using .same _
    · rw [getMutWrite_eq c k cf now v h]
      cases hl : c.store.lookup k cf now with
      | none => simpa using .same _
      | some e =>
        simp only [met_frame, KMap.get_set]
        split
        · subst_vars; exact .write hl
        · exact .same _
  case remove =>
    intro k cf
    rcases Bool.eq_false_or_eq_true c.closed with h | h
    · simpa [remove, h] using .same _
    · rw [remove_eq c k cf h]
      rcases Store.tryRemove_cases c.store k cf with ⟨e, -, -, hr⟩ | ⟨hr, -⟩ <;> rw [hr]
      · simp only [KMap.get_erase]; split
        · exact .gone _
        · exact .same _
      · exact .same _
  case waitEnq => intros; simpa using .same _
  case clearReq => intros; simpa using .same _
  case closeBegin => intros; simpa using .same _
  case updateMaxCost => intros; exact .same _
  case procItem =>
    intro est refills c' h
    obtain ⟨-, it, rest, hb, rfl⟩ := procItem_some h
    cases it with
    | wait id => simpa [handleItem_wait] using .same _
    | update k cost ext => simpa [handleItem_update] using .same _
    | delete k cf =>
      rcases handleItem_delete_cases ({ c with buf := rest } : Cache).admitPending su est refills k cf with
        ⟨-, h⟩ | ⟨e, -, ⟨-, h⟩ | ⟨-, h⟩⟩ <;> rw [h]
      · simpa using .same _
      · simpa using .same _
      · simp only [admitPending_frame, KMap.get_erase]; split
        · exact .gone _
        · exact .same _
    | new k cf cost v exp =>
      rw [handleItem_new]; dsimp only
      rw [foldl_evictOne_get]
      split
      · exact .gone _
      · simp only [admitPending_frame]
        split
        · rename_i hadd
          simp only [met_frame]
          rcases Store.tryInsert_cases c.store su k v cf exp with ⟨em, h, -⟩ | ⟨h, -⟩ <;> rw [h]
          · simp only [KMap.get_set]; split
            · subst_vars; exact .admit hb (by simpa [internalCost] using hadd)
            · exact .same _
          · exact .same _
        · simpa using .same _
  case procClear => intro c' h; obtain ⟨-, id, rest, -, rfl⟩ := procClear_some h; exact .gone _
  case procTick =>
    intro now order c' h
    obtain ⟨-, rfl⟩ := procTick_some h
    rw [(deliverEvictions_frame _ _).2.1]
    rcases sweepKeys_shrinks order _ now [] j with h | h <;> rw [h]
    · exact .gone _
    · exact .same _
  case procStop => intro c' h; obtain ⟨-, rfl⟩ := procStop_some h; exact .same _
  case policyWorker => intros; exact .same _
  case policyClose => exact .same _

/-- the item a client call puts into the insert buffer -/
inductive Sends : Act → Item → Prop
  | new {k cf v : Nat} {cost : Int} {ttl now : Nat} {coster : Int} :
      Sends (.insert k cf v cost ttl now coster false)
        (.new k cf (cost + if cost == 0 then coster else 0) v ⟨ttl, now⟩)
  | update {k cf v : Nat} {cost : Int} {ttl now : Nat} {coster : Int} {only : Bool} :
      Sends (.insert k cf v cost ttl now coster only) (.update k cost (if cost == 0 then coster else 0))
  | delete {k cf : Nat} : Sends (.remove k cf) (.delete k cf)
  | wait {id : Nat} : Sends (.waitEnq id) (.wait id)

theorem mem_snoc_append {x i : Item} {b p : List Item} : x ∈ (b ++ [i]) ++ p ↔ x = i ∨ x ∈ b ++ p := by
  simp only [List.mem_append, List.mem_singleton]
  exact ⟨fun h => h.elim (·.elim (Or.inr ∘ Or.inl) Or.inl) (Or.inr ∘ Or.inr),
    fun h => h.elim (Or.inl ∘ Or.inr) (·.elim (Or.inl ∘ Or.inl) Or.inr)⟩

theorem mem_append_snoc {x i : Item} {b p : List Item} : x ∈ b ++ (p ++ [i]) ↔ x = i ∨ x ∈ b ++ p := by
  simp only [List.mem_append, List.mem_singleton]
  exact ⟨fun h => h.elim (Or.inr ∘ Or.inl) (·.elim (Or.inr ∘ Or.inr) Or.inl),
    fun h => h.elim (Or.inr ∘ Or.inr) (·.elim Or.inl (Or.inr ∘ Or.inl))⟩

/-- whatever is on its way to the processor after a step was so before, or the step's call sent it -/
theorem step_inflight {su : Nat → Nat → Bool} {c c' : Cache} {a : Act} (hs : c.step su a = some c')
    {x : Item} (hx : x ∈ c'.buf ++ c'.pendingSends) : x ∈ c.buf ++ c.pendingSends ∨ Sends a x := by
  revert hx
  apply step_induction (motive := fun a c' => x ∈ c'.buf ++ c'.pendingSends → x ∈ c.buf ++ c.pendingSends ∨ Sends a x) hs
  case insert =>
    intro k cf v cost ttl now coster only
    rcases insert_cases c su k cf v cost ttl now coster only with
      ⟨e, -, -, -, -, h⟩ | ⟨-, rfl, h⟩ | ⟨-, -, h⟩ | h <;> rw [h] <;> dsimp only
    · split
      · rw [mem_snoc_append]; rintro (rfl | h)
        · exact Or.inr .update
        · exact Or.inl h
      · exact Or.inl
    · rw [mem_snoc_append]; rintro (rfl | h)
      · exact Or.inr .new
      · exact Or.inl h
    · simpa using Or.inl
    · exact Or.inl
  case get => intros _ _ _; simpa using Or.inl
  case getMut => intros _ _ _ _; simpa using Or.inl
  case remove =>
    intro k cf
    rcases Bool.eq_false_or_eq_true c.closed with h | h
    · simpa [remove, h] using Or.inl
    · rw [remove_eq c k cf h]; dsimp only
      split
      · rw [mem_snoc_append]; rintro (rfl | h)
        · exact Or.inr .delete
        · exact Or.inl h
      · rw [mem_append_snoc]; rintro (rfl | h)
        · exact Or.inr .delete
        · exact Or.inl h
  case waitEnq =>
    intro id
    unfold waitEnq; split
    · exact Or.inl
    · split
      · rw [mem_snoc_append]; rintro (rfl | h)
        · exact Or.inr .wait
        · exact Or.inl h
      · exact Or.inl
  case clearReq => intro _; simpa using Or.inl
  case closeBegin => intro _; simpa using Or.inl
  case updateMaxCost => intro _; exact Or.inl
  case procItem =>
    -- the popped head was in the buffer; a blocked sender's item moves from `pendingSends` to `buf`
    intro est refills c' h hx
    obtain ⟨-, it, rest, hb, rfl⟩ := procItem_some h
    simp only [handleItem_frame] at hx
    refine Or.inl ?_
    rw [hb, List.cons_append]
    refine List.mem_cons_of_mem _ ?_
    rcases admitPending_cases ({ c with buf := rest } : Cache) with h | ⟨it', rest', hp, -, h⟩ <;> rw [h] at hx
    · exact hx
    · dsimp only at hx hp; rw [hp]; simpa [or_assoc] using hx
  case procClear => intro c' h; obtain ⟨-, id, rest, -, rfl⟩ := procClear_some h; simpa using Or.inl ∘ Or.inr
  case procTick => intro now order c' h; obtain ⟨-, rfl⟩ := procTick_some h; simpa using Or.inl
  case procStop => intro c' h; obtain ⟨-, rfl⟩ := procStop_some h; simpa using Or.inl ∘ Or.inr
  case policyWorker => intros _ _ _; exact Or.inl
  case policyClose => exact Or.inl

/-- what one step can do to the charge of key `j` -/
inductive ChargeStep (c : Cache) (j : Nat) : Act → Option Int → Prop
  | same (a : Act) : ChargeStep c j a (c.lfu.costs.get j)
  | gone (a : Act) : ChargeStep c j a none
  /-- a `New` item for `j` is applied: `j` is admitted, or re-charged in place -/
  | new {est : Nat → Int} {refills : List (List (Nat × Int))} {cf : Nat} {cost : Int} {v : Nat} {exp : Time}
      {rest : List Item} : c.buf = Item.new j cf cost v exp :: rest →
      ChargeStep c j (.procItem est refills) (some (c.internalCost cost))
  | update {est : Nat → Int} {refills : List (List (Nat × Int))} {cost ext : Int} {rest : List Item} :
      c.buf = Item.update j cost ext :: rest →
      ChargeStep c j (.procItem est refills) (some (c.internalCost cost + ext))

theorem step_charge {su : Nat → Nat → Bool} {c c' : Cache} {a : Act} (hs : c.step su a = some c')
    (hinv : c.lfu.Inv) (j : Nat) : ChargeStep c j a (c'.lfu.costs.get j) := by
  apply step_induction (motive := fun a c' => ChargeStep c j a (c'.lfu.costs.get j)) hs
  case insert => intros; simpa using .same _
  case get => intros; simpa using .same _
  case getMut => intros; simpa using .same _
  case remove => intros; simpa using .same _
  case waitEnq => intros; simpa using .same _
  case clearReq => intros; simpa using .same _
  case closeBegin => intros; simpa using .same _
  case updateMaxCost => intros; exact .same _
  case procItem =>
    intro est refills c' h
    obtain ⟨-, it, rest, hb, rfl⟩ := procItem_some h
    -- the blocked sender let in first changes neither the policy nor the configuration
    generalize hc1 : ({ c with buf := rest } : Cache).admitPending = c1
    have hl : c1.lfu = c.lfu := by simp [← hc1]
    have hic : ∀ x, c1.internalCost x = c.internalCost x := by simp [← hc1, internalCost]
    cases it with
    | wait id => simpa [handleItem_wait, hl] using .same _
    | delete k cf =>
      rcases handleItem_delete_cases c1 su est refills k cf with ⟨-, h⟩ | ⟨e, -, ⟨-, h⟩ | ⟨-, h⟩⟩ <;>
        simp only [h, uncharge_get, hl]
      · split
        · exact .gone _
        · exact .same _
      · exact .same _
      · split
        · exact .gone _
        · exact .same _
    | update k cost ext =>
      simp only [handleItem_update, met_frame, hl, hic, Lfu.update]
      cases hg : c.lfu.costs.get k with
      | none => exact .same _
      | some prev =>
        simp only [KMap.get_set]; split
        · subst_vars; exact .update hb
        · exact .same _
    | new k cf cost v exp =>
      rw [handleItem_new_lfu, hl, hic]
      have sp := policyAdd_spec c.lfu est k (c.internalCost cost) refills hinv
      by_cases hk : j = k
      · subst hk
        by_cases hbig : c.internalCost cost > c.lfu.maxCost
        · rw [(sp.oversize hbig).2.1]; exact .same _
        · cases hg : c.lfu.costs.get j with
          | some prev => rw [(sp.update (by omega) ⟨prev, hg⟩).2.2.1]; exact .new hb
          | none =>
            cases hadd : (policyAdd c.lfu est j (c.internalCost cost) refills).added with
            | true => rw [(sp.admitted hadd).2.1]; exact .new hb
            | false => rw [sp.refused hadd hg]; exact .gone _
      · rcases sp.only_released j hk with h | h <;> rw [h]
        · exact .gone _
        · exact .same _
  case procClear => intro c' h; obtain ⟨-, id, rest, -, rfl⟩ := procClear_some h; exact .gone _
  case procTick =>
    intro now order c' h
    obtain ⟨-, rfl⟩ := procTick_some h
    rw [(Cache.deliverEvictions_frame _ _).2.2.1]
    rcases sweepKeys_charge_shrinks order _ now [] j with h | h <;> rw [h]
    · exact .gone _
    · exact .same _
  case procStop => intro c' h; obtain ⟨-, rfl⟩ := procStop_some h; exact .same _
  case policyWorker => intros; exact .same _
  case policyClose => exact .same _

/-- what every enabled step keeps, every run keeps (`Cache.run` skips the actions that are not enabled) -/
theorem Cache.run_induction {su : Nat → Nat → Bool} {P : Cache → Prop}
    (hstep : ∀ c a c', P c → c.step su a = some c' → P c') (acts : List Act) (c : Cache) (h : P c) :
    P (Cache.run su c acts) := by
  induction acts generalizing c with
  | nil => exact h
  | cons a rest ih =>
    refine ih _ ?_
    cases hs : c.step su a with
    | none => exact h
    | some c' => exact hstep c a c' h hs

/-- The same with a ghost value: an invariant `I c n` that every enabled step takes to `I c' (ghost c n a)`
and every action that is not enabled to `I c (ghost c n a)` holds along every run, of the ghost folded along
it. `G` is that fold, given by its two equations. -/
theorem Cache.run_ghost_induction {su : Nat → Nat → Bool} {γ : Type} {I : Cache → γ → Prop}
    {ghost : Cache → γ → Act → γ} {G : Cache → γ → List Act → γ} (hnil : ∀ c n, G c n [] = n)
    (hcons : ∀ c n a rest, G c n (a :: rest) = G ((c.step su a).getD c) (ghost c n a) rest)
    (hstep : ∀ c n a c', I c n → c.step su a = some c' → I c' (ghost c n a))
    (hskip : ∀ c n a, I c n → c.step su a = none → I c (ghost c n a))
    (acts : List Act) (c : Cache) (n : γ) (h : I c n) : I (Cache.run su c acts) (G c n acts) := by
  induction acts generalizing c n with
  | nil => rw [hnil]; exact h
  | cons a rest ih =>
    rw [hcons]
    refine ih _ _ ?_
    cases hs : c.step su a with
    | none => exact hskip c n a h hs
    | some c' => exact hstep c n a c' h hs

-- the protocol state along a step --------------------------------------------------------------------
-- `step_protocol`: the configuration is fixed and each of the three flags is set by one action and reset by
-- none. `step_queue`: what a step does to the insert buffer and to the released wait-groups. The
-- wait / clear / close theorems (C10, C12) are read off these two.

section
open Cache
variable {su : Nat → Nat → Bool} {c c' : Cache} {a : Act}

/-- `is_closed` is set by `close()`, `procExited` by the stop iteration, the policy's flag by
`policy.close()`; nothing else sets them, nothing resets them, and nothing touches the configuration -/
theorem step_protocol (hs : c.step su a = some c') :
    c'.cfg = c.cfg ∧ (c'.closed = true ↔ c.closed = true ∨ ∃ id, a = .closeBegin id) ∧
    (c'.procExited = true ↔ c.procExited = true ∨ a = .procStop) ∧
    (c'.policyClosed = true ↔ c.policyClosed = true ∨ a = .policyClose) := by
  apply step_induction (motive := fun a c' =>
    c'.cfg = c.cfg ∧ (c'.closed = true ↔ c.closed = true ∨ ∃ id, a = .closeBegin id) ∧
    (c'.procExited = true ↔ c.procExited = true ∨ a = .procStop) ∧
    (c'.policyClosed = true ↔ c.policyClosed = true ∨ a = .policyClose)) hs
  case closeBegin => intro id; unfold closeBegin; split <;> simp [*]
  case procItem => intro est refills c' h; obtain ⟨-, it, rest, -, rfl⟩ := procItem_some h; simp
  case procClear => intro c' h; obtain ⟨-, id, rest, -, rfl⟩ := procClear_some h; simp
  case procTick => intro now order c' h; obtain ⟨-, rfl⟩ := procTick_some h; simp
  case procStop => intro c' h; obtain ⟨-, rfl⟩ := procStop_some h; simp
  all_goals intros; simp

theorem procItem_pops {est : Nat → Int} {refills : List (List (Nat × Int))}
    (h : c.procItem su est refills = some c') :
    ∃ it rest, c.buf = it :: rest ∧ rest <+: c'.buf ∧ ∀ id, id ∈ c'.released ↔ it = .wait id ∨ id ∈ c.released := by
  obtain ⟨-, it, rest, hb, rfl⟩ := procItem_some h
  refine ⟨it, rest, hb, ?_, fun id => by simp [mem_handleItem_released]⟩
  rcases admitPending_cases ({ c with buf := rest } : Cache) with h | ⟨x, _, -, -, h⟩ <;> simp [h]

/-- the processor iterations that take items out of the insert buffer -/
def Act.consumes : Act → Bool
  | .procItem .. | .procClear | .procStop => true
  | _ => false

/-- what the step `a` from `c` to `c'` does to the insert buffer and to the released wait-groups -/
inductive QueueStep (c c' : Cache) (a : Act) : Prop
  /-- clients, ticks and the policy worker only append, and release nobody -/
  | append : a.consumes = false → c.buf <+: c'.buf → c'.released = c.released → QueueStep c c' a
  /-- an item iteration takes the head, a blocked sender may use the freed slot; the waiter whose marker
  was taken is released, and nobody else -/
  | pop (it : Item) (rest : List Item) : a.consumes = true → c.buf = it :: rest → rest <+: c'.buf →
      (∀ id, id ∈ c'.released ↔ it = .wait id ∨ id ∈ c.released) → QueueStep c c' a
  /-- a clear and the stop iteration empty the buffer and release every buffered waiter -/
  | flush : a.consumes = true → c'.buf = [] →
      (∀ id, Item.wait id ∈ c.buf ∨ id ∈ c.released → id ∈ c'.released) → QueueStep c c' a

theorem step_queue (hs : c.step su a = some c') : QueueStep c c' a := by
  apply step_induction (motive := fun a c' => QueueStep c c' a) hs
  case insert =>
    intro k cf v cost ttl now coster only
    refine .append rfl ?_ (by simp)
    rcases insert_cases c su k cf v cost ttl now coster only with
      ⟨e, -, -, -, -, h⟩ | ⟨-, -, h⟩ | ⟨-, -, h⟩ | h <;> rw [h]
    · dsimp only; split <;> simp
    all_goals simp
  case remove =>
    intro k cf
    refine .append rfl ?_ (by simp)
    rcases Bool.eq_false_or_eq_true c.closed with h | h
    · simp [remove, h]
    · rw [remove_eq c k cf h]; dsimp only; split <;> simp
  case waitEnq =>
    intro id
    refine .append rfl ?_ (by simp)
    unfold waitEnq; split
    · simp
    · split <;> simp
  case procItem =>
    intro est refills c' h
    obtain ⟨it, rest, hb, hb', hr⟩ := procItem_pops h
    exact .pop it rest rfl hb hb' hr
  case procClear =>
    intro c' h
    obtain ⟨-, id, rest, -, rfl⟩ := procClear_some h
    exact .flush rfl (by simp) fun x hx => List.mem_cons_of_mem _ ((mem_drain_released ..).mpr hx)
  case procTick =>
    intro now order c' h
    obtain ⟨-, rfl⟩ := procTick_some h
    exact .append rfl (by simp) (by simp)
  case procStop =>
    intro c' h
    obtain ⟨-, rfl⟩ := procStop_some h
    refine .flush rfl rfl fun x hx => ?_
    rcases hx with hx | hx
    · exact List.mem_append_left _ (List.mem_append_right _ (List.mem_filterMap.mpr ⟨_, hx, rfl⟩))
    · exact List.mem_append_right _ hx
  all_goals intros; exact .append rfl (by simp) (by simp)

theorem step_appends (hs : c.step su a = some c') (ha : a.consumes = false) :
    c.buf <+: c'.buf ∧ c'.released = c.released := by
  cases step_queue hs with
  | append _ hb hr => exact ⟨hb, hr⟩
  | pop _ _ h | flush h => rw [ha] at h; cases h

end

/-- the configuration is fixed at construction: no step of any actor changes it -/
theorem step_cfg (su : Nat → Nat → Bool) (c c' : Cache) (a : Act) (hs : c.step su a = some c') :
    c'.cfg = c.cfg := (step_protocol hs).1

theorem run_cfg (su : Nat → Nat → Bool) (acts : List Act) (c : Cache) : (Cache.run su c acts).cfg = c.cfg :=
  Cache.run_induction (P := fun c' => c'.cfg = c.cfg) (fun c1 a c2 h hs => (step_cfg su c1 c2 a hs).trans h) acts c rfl


end Stretto
