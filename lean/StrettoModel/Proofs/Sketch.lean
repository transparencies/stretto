import StrettoModel.Model.Sketch
/-! Lemmas about the count-min sketch model. -/
namespace Stretto

theorem nib_lt (b : Nat) (odd : Bool) : nib b odd < 16 := by
  unfold nib; split
  · exact Nat.lt_succ_of_le Nat.and_le_right
  · exact Nat.lt_succ_of_le Nat.and_le_right

/-- the 512-row table: incrementing a non-saturated counter of a byte -/
theorem nib_inc_table : ∀ b : Fin 256, ∀ odd : Bool, nib b.val odd < 15 →
    nib (b.val + nibUnit odd) odd = nib b.val odd + 1 ∧
    nib (b.val + nibUnit odd) (!odd) = nib b.val (!odd) ∧
    b.val + nibUnit odd < 256 := by
  decide +kernel

theorem nib_inc (b : Nat) (hb : b < 256) (odd : Bool) (h : nib b odd < 15) :
    nib (b + nibUnit odd) odd = nib b odd + 1 ∧
    nib (b + nibUnit odd) (!odd) = nib b (!odd) ∧
    b + nibUnit odd < 256 :=
  nib_inc_table ⟨b, hb⟩ odd h

theorem nib_halve_table : ∀ b : Fin 256, ∀ odd : Bool,
    nib (byteHalve b.val) odd = nib b.val odd / 2 ∧ byteHalve b.val < 256 := by
  decide +kernel

theorem nib_halve (b : Nat) (hb : b < 256) (odd : Bool) :
    nib (byteHalve b) odd = nib b odd / 2 ∧ byteHalve b < 256 :=
  nib_halve_table ⟨b, hb⟩ odd

theorem nib_zero (odd : Bool) : nib 0 odd = 0 := by cases odd <;> rfl

theorem le_sat {n v : Nat} (hnv : n ≤ v) (hv : v < 16) :
    n ≤ min (v + 1) 15 ∧ min (n + 1) 15 ≤ min (v + 1) 15 := by
  omega

namespace Row

/-- every byte of the row is a `u8` -/
def Bytes (r : Row) : Prop := ∀ b ∈ r, b < 256

theorem get_of_lt (r : Row) (i : Nat) (h : i / 2 < r.length) :
    r.get i = some (nib r[i / 2] (i % 2 == 1)) := by
  simp [get, h]

theorem get_lt (r : Row) (i v : Nat) (h : r.get i = some v) : v < 16 := by
  obtain ⟨b, _, rfl⟩ := Option.map_eq_some_iff.mp h
  exact nib_lt _ _

/-- two counters that share a byte are its two nibbles -/
theorem odd_of_ne {i j : Nat} (hbyte : i / 2 = j / 2) (hji : j ≠ i) :
    (j % 2 == 1) = !(i % 2 == 1) := by
  have : j % 2 ≠ i % 2 := fun h =>
    hji (by rw [← Nat.div_add_mod i 2, ← Nat.div_add_mod j 2, hbyte, h])
  rcases Nat.mod_two_eq_zero_or_one i with a | a <;>
    rcases Nat.mod_two_eq_zero_or_one j with b | b <;> simp [a, b] at this ⊢

/-- `inc` never panics inside the row and keeps it a row of `u8`s; the incremented counter goes up
by one unless saturated at 15, every other counter is left alone -/
theorem inc_spec (r : Row) (i : Nat) (hb : r.Bytes) (hi : i / 2 < r.length) :
    ∃ r', r.inc i = some r' ∧ r'.Bytes ∧ r'.length = r.length ∧
      ∀ j, r'.get j = (r.get j).map fun v => if j = i then min (v + 1) 15 else v := by
  -- saturated or not, `inc` writes one byte back: the old one when saturated
  obtain ⟨b', hinc, hb', hself, hother⟩ : ∃ b', r.inc i = some (r.set (i / 2) b') ∧ b' < 256 ∧
      nib b' (i % 2 == 1) = min (nib r[i / 2] (i % 2 == 1) + 1) 15 ∧
      nib b' (!(i % 2 == 1)) = nib r[i / 2] (!(i % 2 == 1)) := by
    have hbi := hb _ (List.getElem_mem hi)
    unfold inc
    simp only [List.getElem?_eq_getElem hi]
    split
    · rename_i hlt
      have := nib_inc _ hbi _ hlt
      exact ⟨_, rfl, this.2.2, this.1.trans (Nat.min_eq_left hlt).symm, this.2.1⟩
    · rename_i hlt
      have h15 := Nat.le_antisymm (Nat.le_of_lt_succ (nib_lt ..)) (Nat.not_lt.mp hlt)
      exact ⟨r[i / 2], by simp, hbi, by rw [h15]; rfl, rfl⟩
  refine ⟨_, hinc, ?_, List.length_set, fun j => ?_⟩
  · intro x hx
    rcases List.mem_or_eq_of_mem_set hx with hx | rfl
    · exact hb x hx
    · exact hb'
  · unfold get
    rw [List.getElem?_set]
    by_cases hbyte : i / 2 = j / 2
    · by_cases hji : j = i
      · subst hji; simp [hi, hself]
      · simp [← hbyte, hi, hji, odd_of_ne hbyte hji, hother]
    · have : j ≠ i := fun h => hbyte (by rw [h])
      simp [hbyte, this, Function.comp_def]

/-- a row operation that maps every byte with `f` maps every counter with `g`, provided `f` acts as
`g` on both nibbles -/
theorem get_map (f g : Nat → Nat) (r : Row) (i : Nat)
    (hf : ∀ b ∈ r, ∀ odd, nib (f b) odd = g (nib b odd)) :
    Row.get (r.map f) i = (r.get i).map g := by
  unfold get
  rw [List.getElem?_map]
  cases hget : r[i / 2]? with
  | none => rfl
  | some b => simp [hf b (List.mem_of_getElem? hget)]

/-- `reset` halves every counter -/
theorem get_reset (r : Row) (i : Nat) (hb : r.Bytes) : r.reset.get i = (r.get i).map (· / 2) :=
  get_map byteHalve (· / 2) r i fun b hbm odd => (nib_halve b (hb b hbm) odd).1

theorem get_clear (r : Row) (i : Nat) : r.clear.get i = (r.get i).map (fun _ => 0) :=
  get_map (fun _ => 0) (fun _ => 0) r i fun _ _ odd => nib_zero odd

end Row

namespace Sketch

/-- rows hold `u8`s and every masked index addresses a byte inside its row -/
def WF (sk : Sketch) : Prop := ∀ p ∈ sk.rows, p.2.Bytes ∧ sk.mask < 2 * p.2.length

theorem idx_le (mask seed h : Nat) : idx mask seed h ≤ mask := Nat.and_le_right

/-- `index_in_range`: for every hash the masked index addresses a byte of the row -/
theorem idx_in_range (sk : Sketch) (hwf : sk.WF) (p : Nat × Row) (hp : p ∈ sk.rows) (h : Nat) :
    idx sk.mask p.1 h / 2 < p.2.length :=
  Nat.div_lt_of_lt_mul (Nat.lt_of_le_of_lt (idx_le ..) (hwf p hp).2)

/-- every counter of key `h` is at least `n` -/
def LB (sk : Sketch) (h n : Nat) : Prop :=
  ∀ p ∈ sk.rows, ∃ v, p.2.get (idx sk.mask p.1 h) = some v ∧ n ≤ v

theorem WF_cons (p : Nat × Row) (rows : List (Nat × Row)) (mask : Nat) :
    WF ⟨p :: rows, mask⟩ ↔ (p.2.Bytes ∧ mask < 2 * p.2.length) ∧ WF ⟨rows, mask⟩ :=
  List.forall_mem_cons

theorem LB_cons (p : Nat × Row) (rows : List (Nat × Row)) (mask h n : Nat) :
    LB ⟨p :: rows, mask⟩ h n ↔
      (∃ v, p.2.get (idx mask p.1 h) = some v ∧ n ≤ v) ∧ LB ⟨rows, mask⟩ h n :=
  List.forall_mem_cons

theorem LB_zero (sk : Sketch) (hwf : sk.WF) (h : Nat) : sk.LB h 0 :=
  fun p hp => ⟨_, Row.get_of_lt _ _ (idx_in_range sk hwf p hp h), Nat.zero_le _⟩

theorem LB_mono (sk : Sketch) (h n m : Nat) (hnm : m ≤ n) (hl : sk.LB h n) : sk.LB h m := by
  intro p hp
  obtain ⟨v, hv, hle⟩ := hl p hp
  exact ⟨v, hv, Nat.le_trans hnm hle⟩

/-- `estRows` returns the largest `n ≤ m` that is a lower bound of all the key's counters -/
theorem estRows_spec (mask h : Nat) (rows : List (Nat × Row)) (m : Nat)
    (hl : LB ⟨rows, mask⟩ h 0) :
    ∃ e, estRows mask h rows m = some e ∧ ∀ n, n ≤ e ↔ n ≤ m ∧ LB ⟨rows, mask⟩ h n := by
  induction rows generalizing m with
  | nil => exact ⟨m, rfl, fun n => ⟨fun hn => ⟨hn, by simp [LB]⟩, fun hn => hn.1⟩⟩
  | cons p rest ih =>
    obtain ⟨⟨v, hv, _⟩, hrest⟩ := (LB_cons ..).mp hl
    obtain ⟨e, he, hle⟩ := ih (if v < m then v else m) hrest
    refine ⟨e, by simp [estRows, hv, he], fun n => ?_⟩
    have : n ≤ (if v < m then v else m) ↔ n ≤ m ∧ n ≤ v := by split <;> omega
    rw [hle, LB_cons, hv, this, and_assoc]
    simp only [Option.some.injEq, exists_eq_left']

/-- `estimate` never panics when the key's counters are in range, and is then the largest
`n ≤ 255` that is a lower bound of all of them -/
theorem estimate_spec (sk : Sketch) (h : Nat) (hl : sk.LB h 0) :
    ∃ e, sk.estimate h = some e ∧ ∀ n, n ≤ e ↔ n ≤ 255 ∧ sk.LB h n :=
  estRows_spec sk.mask h sk.rows 255 hl

theorem estimate_ge_of_LB (sk : Sketch) (h n : Nat) (hn : n ≤ 255) (hl : sk.LB h n) :
    ∃ e, sk.estimate h = some e ∧ n ≤ e := by
  obtain ⟨e, he, hle⟩ := estimate_spec sk h (LB_mono sk h n 0 (Nat.zero_le n) hl)
  exact ⟨e, he, (hle n).mpr ⟨hn, hl⟩⟩

theorem estimate_le_get (sk : Sketch) (h e : Nat) (hl : sk.LB h 0) (he : sk.estimate h = some e)
    (p : Nat × Row) (hp : p ∈ sk.rows) (v : Nat) (hv : p.2.get (idx sk.mask p.1 h) = some v) :
    e ≤ v := by
  obtain ⟨e', he', hle⟩ := estimate_spec sk h hl
  obtain rfl : e' = e := Option.some.inj (he'.symm.trans he)
  obtain ⟨v', hv', hev⟩ := ((hle e').mp (Nat.le_refl _)).2 p hp
  exact Option.some.inj (hv'.symm.trans hv) ▸ hev

theorem estimate_le_15 (sk : Sketch) (hwf : sk.WF) (hne : sk.rows ≠ []) (h e : Nat)
    (he : sk.estimate h = some e) : e ≤ 15 := by
  obtain ⟨p, hp⟩ := List.exists_mem_of_ne_nil _ hne
  obtain ⟨v, hv, _⟩ := LB_zero sk hwf h p hp
  exact Nat.le_trans (estimate_le_get sk h e (LB_zero sk hwf h) he p hp v hv)
    (Nat.le_of_lt_succ (Row.get_lt _ _ v hv))

theorem incRows_spec (mask h : Nat) (rows : List (Nat × Row)) (hwf : WF ⟨rows, mask⟩) :
    ∃ rows', incRows mask h rows = some rows' ∧ rows'.length = rows.length ∧ WF ⟨rows', mask⟩ ∧
      ∀ k n, LB ⟨rows, mask⟩ k n → LB ⟨rows', mask⟩ k (if k = h then min (n + 1) 15 else n) := by
  induction rows with
  | nil => exact ⟨[], rfl, rfl, hwf, fun k n _ => by simp [LB]⟩
  | cons p rest ih =>
    obtain ⟨s, r⟩ := p
    obtain ⟨⟨hb, hm⟩, hrest⟩ := (WF_cons ..).mp hwf
    obtain ⟨r', hr', hb', hlen, hget⟩ := Row.inc_spec r (idx mask s h) hb
      (Nat.div_lt_of_lt_mul (Nat.lt_of_le_of_lt (idx_le ..) hm))
    obtain ⟨rest', hrest', hl, hwf', hlb⟩ := ih hrest
    refine ⟨(s, r') :: rest', by simp [incRows, hr', hrest'], by simp [hl],
      (WF_cons ..).mpr ⟨⟨hb', hlen ▸ hm⟩, hwf'⟩, fun k n hk => ?_⟩
    obtain ⟨⟨v, hv, hnv⟩, hk'⟩ := (LB_cons ..).mp hk
    have hsat := le_sat hnv (Row.get_lt _ _ _ hv)
    refine (LB_cons ..).mpr ⟨⟨_, by rw [hget, hv]; rfl, ?_⟩, hlb k n hk'⟩
    by_cases hkh : k = h
    · subst hkh; simpa using hsat.2
    · simp only [hkh, if_false]; split
      · exact hsat.1
      · exact hnv

/-- `increment` never panics on a well-formed sketch; the result is well-formed, no counter of
any key went down, and every counter of the incremented key went up by one unless saturated -/
theorem increment_spec (sk : Sketch) (hwf : sk.WF) (h : Nat) :
    ∃ sk', sk.increment h = some sk' ∧ sk'.WF ∧ sk'.mask = sk.mask ∧
      sk'.rows.length = sk.rows.length ∧
      ∀ k n, sk.LB k n → sk'.LB k (if k = h then min (n + 1) 15 else n) := by
  obtain ⟨rows', hrows', hlen, hwf', hlb⟩ := incRows_spec sk.mask h sk.rows hwf
  exact ⟨{ sk with rows := rows' }, by simp [increment, hrows'], hwf', rfl, hlen, hlb⟩

theorem WF_map (sk : Sketch) (hwf : sk.WF) (f : Nat → Nat) (hf : ∀ b < 256, f b < 256) :
    WF { sk with rows := sk.rows.map fun p => (p.1, p.2.map f) } := by
  intro p' hp'
  obtain ⟨p, hp, rfl⟩ := List.mem_map.mp hp'
  refine ⟨fun b' hb' => ?_, by simpa using (hwf p hp).2⟩
  obtain ⟨b, hb, rfl⟩ := List.mem_map.mp hb'
  exact hf b ((hwf p hp).1 b hb)

theorem reset_WF (sk : Sketch) (hwf : sk.WF) : sk.reset.WF :=
  WF_map sk hwf byteHalve fun b hb => (nib_halve b hb false).2

theorem clear_WF (sk : Sketch) (hwf : sk.WF) : sk.clear.WF :=
  WF_map sk hwf (fun _ => 0) fun _ _ => by decide

/-- `reset_halves`: after `reset`, every counter of every key is half of what it was -/
theorem get_reset (sk : Sketch) (hwf : sk.WF) (h : Nat) (p' : Nat × Row) (hp' : p' ∈ sk.reset.rows) :
    ∃ p ∈ sk.rows, p'.1 = p.1 ∧
      p'.2.get (idx sk.reset.mask p'.1 h) = (p.2.get (idx sk.mask p.1 h)).map (· / 2) := by
  obtain ⟨p, hp, rfl⟩ := List.mem_map.mp hp'
  exact ⟨p, hp, rfl, Row.get_reset _ _ (hwf p hp).1⟩

/-- after `clear`, every counter of every key is zero -/
theorem get_clear (sk : Sketch) (hwf : sk.WF) (h : Nat) (p' : Nat × Row) (hp' : p' ∈ sk.clear.rows) :
    p'.2.get (idx sk.clear.mask p'.1 h) = some 0 := by
  obtain ⟨p, hp, rfl⟩ := List.mem_map.mp hp'
  exact (Row.get_clear ..).trans
    (congrArg (Option.map fun _ => 0) (Row.get_of_lt _ _ (idx_in_range sk hwf p hp h)))

theorem estimate_zero (sk : Sketch) (hne : sk.rows ≠ []) (h : Nat)
    (hz : ∀ p ∈ sk.rows, p.2.get (idx sk.mask p.1 h) = some 0) : sk.estimate h = some 0 := by
  have hl : sk.LB h 0 := fun p hp => ⟨0, hz p hp, Nat.le_refl 0⟩
  obtain ⟨e, he, _⟩ := estimate_spec sk h hl
  obtain ⟨p, hp⟩ := List.exists_mem_of_ne_nil _ hne
  rw [he, Nat.le_zero.mp (estimate_le_get sk h e hl he p hp 0 (hz p hp))]

theorem estimate_clear (sk : Sketch) (hwf : sk.WF) (hne : sk.rows ≠ []) (h : Nat) :
    sk.clear.estimate h = some 0 :=
  estimate_zero sk.clear (by simpa [clear] using hne) h (get_clear sk hwf h)

theorem mk'_WF (seeds : List Nat) (width mask : Nat) (h : mask < 2 * width) :
    (mk' seeds width mask).WF := by
  intro p hp
  obtain ⟨s, _, rfl⟩ := List.mem_map.mp hp
  exact ⟨fun b hb => by simp [List.eq_of_mem_replicate hb], by simpa [mk'] using h⟩

/-- on a fresh sketch every key estimates zero -/
theorem estimate_mk' (seeds : List Nat) (width mask : Nat) (hm : mask < 2 * width)
    (hs : seeds ≠ []) (h : Nat) : (mk' seeds width mask).estimate h = some 0 := by
  refine estimate_zero _ (by simpa [mk'] using hs) h fun p hp => ?_
  rw [Row.get_of_lt _ _ (idx_in_range _ (mk'_WF seeds width mask hm) p hp h)]
  obtain ⟨s, _, rfl⟩ := List.mem_map.mp hp
  simp [nib_zero]

end Sketch
end Stretto
