import StrettoModel.Model.Policy
import StrettoModel.Proofs.KMap
/-! Invariants of the sampled-LFU bookkeeping and the eviction loop. -/
namespace Stretto
namespace Lfu

/-- keys distinct and `used` is the sum of the charges -/
def Inv (l : Lfu) : Prop := l.costs.WF ∧ l.used = KMap.total l.costs

/-- every charge is non-negative (domain assumption on costs, preserved by every operation) -/
def NonNeg (l : Lfu) : Prop := ∀ k c, l.costs.get k = some c → 0 ≤ c

theorem increment_inv (l : Lfu) (k : Nat) (c : Int) (h : l.Inv) (hk : l.costs.get k = none) :
    (l.increment k c).Inv := by
  refine ⟨KMap.wf_set _ _ _ h.1, ?_⟩
  simp only [increment]
  rw [KMap.total_set _ _ _ h.1, hk, h.2]; simp

theorem increment_get (l : Lfu) (k j : Nat) (c : Int) :
    (l.increment k c).costs.get j = if j = k then some c else l.costs.get j :=
  KMap.get_set ..

/-- a charge added where there is room for it leaves `used` within `max_cost` -/
theorem increment_used_le (l : Lfu) (k : Nat) (c : Int) (h : l.roomLeft c ≥ 0) :
    (l.increment k c).used ≤ (l.increment k c).maxCost := by
  simp only [increment, roomLeft] at *; omega

theorem increment_nonneg (l : Lfu) (k : Nat) (c : Int) (h : l.NonNeg) (hc : 0 ≤ c) :
    (l.increment k c).NonNeg := by
  intro j cj hj
  rw [increment_get] at hj
  split at hj
  · cases hj; exact hc
  · exact h j cj hj

theorem increment_length (l : Lfu) (k : Nat) (c : Int) (hk : l.costs.get k = none) :
    (l.increment k c).costs.length = l.costs.length + 1 := by
  simp [increment, KMap.set, KMap.erase_of_get_none l.costs k hk]

/-- `remove` without the case distinction: erasing a key that is not charged changes nothing -/
theorem remove_eq (l : Lfu) (k : Nat) :
    l.remove k =
      ({ l with costs := l.costs.erase k, used := l.used - (l.costs.get k).getD 0 }, l.costs.get k) := by
  unfold remove
  cases hg : l.costs.get k with
  | none => simp [KMap.erase_of_get_none _ _ hg]
  | some c => rfl

theorem remove_snd (l : Lfu) (k : Nat) : (l.remove k).2 = l.costs.get k := by
  rw [remove_eq]

theorem remove_costs (l : Lfu) (k : Nat) : (l.remove k).1.costs = l.costs.erase k := by
  rw [remove_eq]

theorem remove_get (l : Lfu) (k j : Nat) :
    (l.remove k).1.costs.get j = if j = k then none else l.costs.get j := by
  rw [remove_costs]; exact KMap.get_erase ..

theorem remove_fields (l : Lfu) (k : Nat) :
    (l.remove k).1.maxCost = l.maxCost ∧ (l.remove k).1.samples = l.samples := by
  rw [remove_eq]; exact ⟨rfl, rfl⟩

theorem remove_inv (l : Lfu) (k : Nat) (h : l.Inv) : (l.remove k).1.Inv := by
  rw [remove_eq]
  exact ⟨KMap.wf_erase _ _ h.1, by rw [KMap.total_erase _ _ h.1, ← h.2]⟩

theorem remove_nonneg (l : Lfu) (k : Nat) (h : l.NonNeg) : (l.remove k).1.NonNeg := by
  intro j cj hj
  rw [remove_get] at hj
  split at hj
  · cases hj
  · exact h j cj hj

theorem remove_used_le (l : Lfu) (k : Nat) (h : l.NonNeg) : (l.remove k).1.used ≤ l.used := by
  rw [remove_eq]
  cases hg : l.costs.get k with
  | none => simp
  | some c => have := h k c hg; simp only [Option.getD_some]; omega

/-- the number of charged keys drops by one exactly when the key was charged -/
theorem remove_length (l : Lfu) (k : Nat) (h : l.Inv) :
    (l.remove k).1.costs.length + (if (l.costs.get k).isSome then 1 else 0) = l.costs.length := by
  rw [remove_eq]
  cases hg : l.costs.get k with
  | none => simp [KMap.erase_of_get_none _ _ hg]
  | some c => simpa using KMap.length_erase_of_get_some _ h.1 k c hg

theorem update_none {l : Lfu} {k : Nat} (c : Int) (h : l.costs.get k = none) :
    l.update k c = (l, false, []) := by
  simp [update, h]

theorem update_some {l : Lfu} {k : Nat} {prev : Int} (c : Int) (h : l.costs.get k = some prev) :
    l.update k c = ({ l with costs := l.costs.set k c, used := l.used + (c - prev) }, true,
      if prev = c then [MEv.keyUpdate] else [MEv.keyUpdate, MEv.costAdd (c - prev)]) := by
  simp [update, h]

theorem update_get (l : Lfu) (k j : Nat) (c : Int) :
    (l.update k c).1.costs.get j = if j = k then (l.costs.get k).map fun _ => c else l.costs.get j := by
  cases hg : l.costs.get k with
  | none => rw [update_none c hg]; split <;> simp_all
  | some prev => rw [update_some c hg]; simp

theorem update_fields (l : Lfu) (k : Nat) (c : Int) :
    (l.update k c).1.maxCost = l.maxCost ∧ (l.update k c).1.samples = l.samples := by
  unfold update; cases l.costs.get k <;> exact ⟨rfl, rfl⟩

theorem update_inv (l : Lfu) (k : Nat) (c : Int) (h : l.Inv) : (l.update k c).1.Inv := by
  cases hg : l.costs.get k with
  | none => rw [update_none c hg]; exact h
  | some prev =>
    rw [update_some c hg]
    refine ⟨KMap.wf_set _ _ _ h.1, ?_⟩
    simp only
    rw [KMap.total_set _ _ _ h.1, hg, h.2, Option.getD_some]; omega

theorem update_nonneg (l : Lfu) (k : Nat) (c : Int) (h : l.NonNeg) (hc : 0 ≤ c) :
    (l.update k c).1.NonNeg := by
  intro j cj hj
  rw [update_get] at hj
  split at hj
  · cases hg : l.costs.get k <;> simp [hg] at hj; omega
  · exact h j cj hj

theorem update_true_iff (l : Lfu) (k : Nat) (c : Int) :
    (l.update k c).2.1 = true ↔ ∃ prev, l.costs.get k = some prev := by
  unfold update
  cases hg : l.costs.get k <;> simp

theorem clear_inv (l : Lfu) : l.clear.Inv := ⟨KMap.wf_nil, by simp [clear, KMap.total]⟩

theorem clear_nonneg (l : Lfu) : l.clear.NonNeg := fun _ _ h => nomatch h

theorem updateMaxCost_inv (l : Lfu) (mc : Int) (h : l.Inv) : (l.updateMaxCost mc).Inv := h

/-- what a refill accepted by `validRefill` adds to a sample of `n` entries: charged keys with their
charges, never beyond `samples` entries, and up to `samples` or else all the charged keys there are -/
theorem validRefill_spec (l : Lfu) (n : Nat) (extras : List (Nat × Int))
    (hv : l.validRefill n extras = true) :
    (∀ p ∈ extras, l.costs.get p.1 = some p.2) ∧ (n ≤ l.samples → n + extras.length ≤ l.samples) ∧
    (n < l.samples → n + extras.length = l.samples ∨ l.costs.length ≤ n + extras.length) := by
  unfold validRefill at hv
  split at hv
  · next hn =>
    cases List.isEmpty_iff.1 hv
    exact ⟨nofun, fun h => h, fun h => absurd h (Nat.not_lt.2 hn)⟩
  · simp only [Bool.and_eq_true, Bool.or_eq_true, List.all_eq_true, beq_iff_eq, decide_eq_true_eq] at hv
    exact ⟨hv.1.2, fun h => Nat.add_le_of_le_sub' h hv.1.1.1, fun _ => hv.1.1.2⟩

end Lfu

theorem minEntryFirst_none (est : Nat → Int) (s : List (Nat × Int)) : minEntryFirst est s = none ↔ s = [] := by
  cases s with
  | nil => simp [minEntryFirst]
  | cons p rest => simp only [minEntryFirst]; split <;> (try split) <;> simp

/-- the scan returns the first entry that carries the minimum estimate of the whole sample -/
theorem minEntryFirst_spec (est : Nat → Int) (s : List (Nat × Int)) (i : Nat) (q : Nat × Int) (h : Int)
    (hm : minEntryFirst est s = some (i, q, h)) :
    s[i]? = some q ∧ h = est q.1 ∧ (∀ p ∈ s, h ≤ est p.1) ∧
      ∀ j p, j < i → s[j]? = some p → h < est p.1 := by
  induction s generalizing i q h with
  | nil => simp [minEntryFirst] at hm
  | cons p rest ih =>
    simp only [minEntryFirst] at hm
    split at hm
    · next hr =>
      cases hm
      cases (minEntryFirst_none est rest).mp hr
      exact ⟨rfl, rfl, List.forall_mem_cons.2 ⟨Int.le_refl _, nofun⟩, nofun⟩
    · next i' q' h' hr =>
      obtain ⟨h1, h2, h3, h4⟩ := ih i' q' h' hr
      split at hm <;> cases hm
      · next hle =>
        exact ⟨rfl, rfl, List.forall_mem_cons.2 ⟨Int.le_refl _, fun x hx => Int.le_trans hle (h3 x hx)⟩,
          nofun⟩
      · next hlt =>
        have hlt : h < est p.1 := Int.not_le.mp hlt
        refine ⟨h1, h2, List.forall_mem_cons.2 ⟨Int.le_of_lt hlt, h3⟩, fun j x hj hx => ?_⟩
        cases j with
        | zero => cases hx; exact hlt
        | succ j => exact h4 j x (Nat.lt_of_succ_lt_succ hj) hx

theorem minEntry_none (est : Nat → Int) (s : List (Nat × Int)) : minEntry est s = none ↔ s = [] := by
  rw [← minEntryFirst_none est s]
  unfold minEntry
  split
  · simp [*]
  · split <;> (try split) <;> simp [*]

/-- the chosen entry is in the sample and carries the minimum estimate of the whole sample — whichever of
the equally unpopular entries the tie-break oracle proposed -/
theorem minEntry_spec (est : Nat → Int) (s : List (Nat × Int)) (i : Nat) (q : Nat × Int) (h : Int)
    (hm : minEntry est s = some (i, q, h)) :
    s[i]? = some q ∧ h = est q.1 ∧ ∀ p ∈ s, h ≤ est p.1 := by
  unfold minEntry at hm
  split at hm
  · cases hm
  · next i0 q0 h0 hf =>
    obtain ⟨h1, h2, h3, _⟩ := minEntryFirst_spec est s i0 q0 h0 hf
    split at hm
    · next q' hp =>
      split at hm <;> cases hm
      · next heq => exact ⟨hp, heq.symm, h3⟩
      · exact ⟨h1, h2, h3⟩
    · cases hm; exact ⟨h1, h2, h3⟩

/-- what C07 demands of one iteration of the eviction loop -/
def IterOK (est : Nat → Int) (incHits : Int) (it : IterLog) : Prop :=
  it.room < 0 ∧
  match it.victim with
  | some v => v ∈ it.sample ∧ (∀ p ∈ it.sample, est v.1 ≤ est p.1) ∧ est v.1 ≤ incHits
  | none => ∀ p ∈ it.sample, incHits < est p.1

structure LoopSpec (est : Nat → Int) (incHits : Int) (key : Nat) (cost : Int) (l : Lfu)
    (R : AddResult) : Prop where
  inv : R.lfu.Inv
  maxCost : R.lfu.maxCost = l.maxCost
  samples : R.lfu.samples = l.samples
  iters : ∀ it ∈ R.log, IterOK est incHits it
  victims : R.victims = some (R.log.filterMap (·.victim))
  admitted : R.added = true → R.lfu.used ≤ R.lfu.maxCost ∧ R.lfu.costs.get key = some cost ∧ R.stuck = false
  refused : R.added = false → R.lfu.costs.get key = none
  reject_iff : R.stuck = false → (R.added = false ↔ ∃ it ∈ R.log, it.victim = none)
  only_released : ∀ j, j ≠ key → R.lfu.costs.get j = none ∨ R.lfu.costs.get j = l.costs.get j
  released : ∀ it ∈ R.log, ∀ v, it.victim = some v → v.1 ≠ key → R.lfu.costs.get v.1 = none
  /-- a charge that disappeared belongs to a victim of some iteration -/
  only_victims : ∀ j, j ≠ key → (l.costs.get j).isSome → R.lfu.costs.get j = none →
    ∃ it ∈ R.log, ∃ vc, it.victim = some (j, vc)

/-- The runs of the eviction loop as a relation: started in the state `(l, s, vs, evs, log)` and offered
the refills `rf`, the loop returns `R`. Three ways out (room found, out of iterations, newcomer rejected)
and the iteration that evicts. -/
inductive EvictRun (est : Nat → Int) (incHits : Int) (key : Nat) (cost : Int) :
    Lfu → List (Nat × Int) → List (Nat × Int) → List MEv → List IterLog →
      List (List (Nat × Int)) → AddResult → Prop
  | admit {l s vs evs log rf} : l.roomLeft cost ≥ 0 →
    EvictRun est incHits key cost l s vs evs log rf
      { lfu := l.increment key cost, victims := some vs.reverse, added := true,
        events := (MEv.costAdd cost :: evs).reverse, log := log.reverse }
  | stuck {l s vs evs log} : l.roomLeft cost < 0 →
    EvictRun est incHits key cost l s vs evs log []
      { lfu := l, victims := some vs.reverse, added := false, events := evs.reverse,
        stuck := true, log := log.reverse }
  | reject {l s vs evs log x rf} : l.roomLeft cost < 0 → (∀ p ∈ s ++ x, incHits < est p.1) →
    EvictRun est incHits key cost l s vs evs log (x :: rf)
      { lfu := l, victims := some vs.reverse, added := false,
        events := (MEv.rejectSets :: evs).reverse,
        log := (⟨l.roomLeft cost, s ++ x, none⟩ :: log).reverse }
  | evict {l s vs evs log x rf i vk vc h R} : l.roomLeft cost < 0 →
    minEntry est (s ++ x) = some (i, (vk, vc), h) → ¬ incHits < h →
    EvictRun est incHits key cost (l.remove vk).1 (swapRemove (s ++ x) i) ((vk, vc) :: vs)
      (match l.costs.get vk with
        | some c => MEv.keyEvict :: MEv.costEvict c :: evs
        | none => evs)
      (⟨l.roomLeft cost, s ++ x, some (vk, vc)⟩ :: log) rf R →
    EvictRun est incHits key cost l s vs evs log (x :: rf) R

theorem evictLoop_run (est : Nat → Int) (incHits : Int) (key : Nat) (cost : Int) (l : Lfu)
    (s vs : List (Nat × Int)) (evs : List MEv) (log : List IterLog) (rf : List (List (Nat × Int))) :
    EvictRun est incHits key cost l s vs evs log rf (evictLoop est incHits key cost l s vs evs log rf) := by
  induction rf generalizing l s vs evs log with
  | nil =>
    unfold evictLoop
    split
    · exact .admit ‹_›
    · exact .stuck (Int.not_le.1 ‹_›)
  | cons x rf ih =>
    unfold evictLoop
    split
    · exact .admit ‹_›
    · next hroom =>
      have hroom : l.roomLeft cost < 0 := Int.not_le.1 hroom
      dsimp only
      split
      · next hmin =>
        refine .reject hroom fun p hp => ?_
        rw [(minEntry_none est _).mp hmin] at hp; cases hp
      · next i vk vc h hmin =>
        split
        · next hlt =>
          exact .reject hroom fun p hp =>
            Int.lt_of_lt_of_le hlt ((minEntry_spec est _ _ _ _ hmin).2.2 p hp)
        · next hge =>
          rw [Lfu.remove_snd]
          exact .evict hroom hmin hge (ih ..)

section
variable {est : Nat → Int} {incHits : Int} {key : Nat} {cost : Int} {l : Lfu} {s vs : List (Nat × Int)}
  {evs : List MEv} {log : List IterLog} {rf : List (List (Nat × Int))} {R : AddResult}

/-- `LoopSpec` for a result that leaves the loop in state `l` with the accumulated victims `vs` and log
`lg`: the charges of `l` are those of the start `l0` without the victims' keys, and the newcomer, if
admitted, is charged on top. -/
theorem LoopSpec.of_exit {l0 : Lfu} {lg : List IterLog} (h0 : l0.costs.get key = none) (hinv : l.Inv)
    (hmc : l.maxCost = l0.maxCost) (hsm : l.samples = l0.samples)
    (hget : ∀ j, l.costs.get j = if j ∈ vs.map (·.1) then none else l0.costs.get j)
    (hvs : vs = lg.filterMap (·.victim)) (hlog : ∀ it ∈ lg, IterOK est incHits it)
    (hlg : R.log = lg.reverse) (hvic : R.victims = some vs.reverse)
    (hlfu : R.lfu = if R.added then l.increment key cost else l)
    (hadd : R.added = true → l.roomLeft cost ≥ 0 ∧ R.stuck = false)
    (hrej : R.stuck = false → (R.added = false ↔ ∃ it ∈ lg, it.victim = none)) :
    LoopSpec est incHits key cost l0 R := by
  have hk : l.costs.get key = none := by rw [hget, h0]; exact ite_self _
  have hj : ∀ j, j ≠ key → R.lfu.costs.get j = l.costs.get j := by
    intro j hj; rw [hlfu]; split
    · rw [Lfu.increment_get, if_neg hj]
    · rfl
  have hmem : ∀ j, j ∈ vs.map (·.1) ↔ ∃ it ∈ R.log, ∃ vc, it.victim = some (j, vc) := by
    intro j; rw [hlg, hvs]; constructor
    · intro hm
      obtain ⟨v, hv, rfl⟩ := List.mem_map.1 hm
      obtain ⟨it, hit, hv⟩ := List.mem_filterMap.1 hv
      exact ⟨it, List.mem_reverse.2 hit, v.2, hv⟩
    · rintro ⟨it, hit, vc, hv⟩
      exact List.mem_map.2 ⟨(j, vc), List.mem_filterMap.2 ⟨it, List.mem_reverse.1 hit, hv⟩, rfl⟩
  refine ⟨?_, ?_, ?_, fun it hit => hlog it (List.mem_reverse.1 (hlg ▸ hit)),
    by rw [hvic, hlg, hvs, List.filterMap_reverse], fun ha => ?_, fun ha => ?_,
    by simpa [hlg] using hrej, fun j hj' => ?_, fun it hit v hv hne => ?_, fun j hj' hs hn => ?_⟩
  · rw [hlfu]; split
    · exact Lfu.increment_inv l key cost hinv hk
    · exact hinv
  · rw [hlfu]; split <;> exact hmc
  · rw [hlfu]; split <;> exact hsm
  · rw [hlfu, ha]
    exact ⟨l.increment_used_le key cost (hadd ha).1, (l.increment_get ..).trans (if_pos rfl), (hadd ha).2⟩
  · rw [hlfu, ha]; exact hk
  · rw [hj j hj', hget]; split
    · exact Or.inl rfl
    · exact Or.inr rfl
  · rw [hj _ hne, hget, if_pos ((hmem _).2 ⟨it, hit, v.2, hv⟩)]
  · rw [hj j hj', hget] at hn
    split at hn
    · exact (hmem j).1 ‹_›
    · rw [hn] at hs; cases hs

/-- A run of the eviction loop that started in `l0` meets `LoopSpec`. What holds after any number of
iterations: the charges are those of `l0` without the victims so far, the log records the victims, and
no iteration so far has rejected. -/
theorem EvictRun.spec {l0 : Lfu} (run : EvictRun est incHits key cost l s vs evs log rf R)
    (h0 : l0.costs.get key = none) (hinv : l.Inv) (hmc : l.maxCost = l0.maxCost)
    (hsm : l.samples = l0.samples)
    (hget : ∀ j, l.costs.get j = if j ∈ vs.map (·.1) then none else l0.costs.get j)
    (hvs : vs = log.filterMap (·.victim))
    (hlog : ∀ it ∈ log, IterOK est incHits it ∧ it.victim ≠ none) :
    LoopSpec est incHits key cost l0 R := by
  induction run with
  | admit hroom =>
    exact .of_exit h0 hinv hmc hsm hget hvs (fun it hit => (hlog it hit).1) rfl rfl rfl
      (fun _ => ⟨hroom, rfl⟩) (fun _ => ⟨nofun, fun ⟨it, hit, hn⟩ => absurd hn (hlog it hit).2⟩)
  | stuck =>
    exact .of_exit h0 hinv hmc hsm hget hvs (fun it hit => (hlog it hit).1) rfl rfl rfl nofun nofun
  | reject hroom hall =>
    exact .of_exit (lg := ⟨_, _, none⟩ :: _) h0 hinv hmc hsm hget hvs
      (List.forall_mem_cons.2 ⟨⟨hroom, hall⟩, fun it hit => (hlog it hit).1⟩) rfl rfl rfl nofun
      (fun _ => ⟨fun _ => ⟨_, List.mem_cons_self, rfl⟩, fun _ => rfl⟩)
  | @evict l _ _ _ _ _ _ _ vk _ _ _ hroom hmin hge _ ih =>
    obtain ⟨hi, hh, hle⟩ := minEntry_spec est _ _ _ _ hmin
    refine ih (l.remove_inv vk hinv) ((l.remove_fields vk).1.trans hmc)
      ((l.remove_fields vk).2.trans hsm) (fun j => ?_) (by rw [hvs]; rfl) ?_
    · rw [Lfu.remove_get, hget]
      by_cases hjv : j = vk <;>
        simp only [List.map_cons, List.mem_cons, hjv, true_or, false_or, if_true, if_false]
    · exact List.forall_mem_cons.2 ⟨⟨⟨hroom, List.mem_of_getElem? hi, fun p hp => hh ▸ hle p hp,
        hh ▸ Int.not_lt.mp hge⟩, nofun⟩, hlog⟩

theorem EvictRun.nonneg (run : EvictRun est incHits key cost l s vs evs log rf R) (hc : 0 ≤ cost)
    (hnn : l.NonNeg) : R.lfu.NonNeg ∧ (R.added = false → R.lfu.used ≤ l.used) := by
  induction run with
  | admit => exact ⟨Lfu.increment_nonneg _ key cost hnn hc, nofun⟩
  | stuck | reject => exact ⟨hnn, fun _ => Int.le_refl _⟩
  | evict _ _ _ _ ih =>
    have := ih (Lfu.remove_nonneg _ _ hnn)
    exact ⟨this.1, fun hf => Int.le_trans (this.2 hf) (Lfu.remove_used_le _ _ hnn)⟩

end

/-- `policy.add`, all branches -/
structure AddSpec (est : Nat → Int) (l : Lfu) (key : Nat) (cost : Int) (R : AddResult) : Prop where
  inv : R.lfu.Inv
  maxCost : R.lfu.maxCost = l.maxCost
  /-- an entry whose own cost exceeds `max_cost` is never admitted and nothing changes -/
  oversize : cost > l.maxCost → R.added = false ∧ R.lfu = l ∧ R.victims = none
  /-- an already charged key is re-charged in place, nothing is evicted -/
  update : cost ≤ l.maxCost → (∃ prev, l.costs.get key = some prev) →
    R.added = false ∧ R.victims = none ∧ R.lfu.costs.get key = some cost ∧
    ∀ j, j ≠ key → R.lfu.costs.get j = l.costs.get j
  /-- when there is room a new key is admitted and nothing is evicted -/
  room : cost ≤ l.maxCost → l.costs.get key = none → l.roomLeft cost ≥ 0 →
    R.added = true ∧ R.victims = none ∧ R.lfu.costs.get key = some cost ∧
    ∀ j, j ≠ key → R.lfu.costs.get j = l.costs.get j
  /-- every admission of a new key re-establishes `used ≤ max_cost` -/
  admitted : R.added = true → R.lfu.used ≤ R.lfu.maxCost ∧ R.lfu.costs.get key = some cost ∧
    l.costs.get key = none
  /-- the eviction loop follows the sampled-LFU rule at every iteration -/
  iters : ∀ it ∈ R.log, IterOK est (est key) it
  victims_log : R.log ≠ [] → R.victims = some (R.log.filterMap (·.victim))
  victims_eq : ∀ vs, R.victims = some vs → vs = R.log.filterMap (·.victim)
  reject_iff : cost ≤ l.maxCost → l.costs.get key = none → l.roomLeft cost < 0 → R.stuck = false →
    (R.added = false ↔ ∃ it ∈ R.log, it.victim = none)
  only_released : ∀ j, j ≠ key → R.lfu.costs.get j = none ∨ R.lfu.costs.get j = l.costs.get j
  released : ∀ it ∈ R.log, ∀ v, it.victim = some v → v.1 ≠ key → R.lfu.costs.get v.1 = none
  only_victims : ∀ j, j ≠ key → (l.costs.get j).isSome → R.lfu.costs.get j = none →
    ∃ it ∈ R.log, ∃ vc, it.victim = some (j, vc)
  /-- a new key that is not admitted is not charged -/
  refused : R.added = false → l.costs.get key = none → R.lfu.costs.get key = none

/-- the four ways through `policy.add`, each with the condition under which it is taken -/
theorem policyAdd_cases (l : Lfu) (est : Nat → Int) (key : Nat) (cost : Int)
    (refills : List (List (Nat × Int))) :
    (cost > l.maxCost ∧
      policyAdd l est key cost refills = { lfu := l, victims := none, added := false, events := [] }) ∨
    (∃ prev, cost ≤ l.maxCost ∧ l.costs.get key = some prev ∧
      policyAdd l est key cost refills =
        { lfu := (l.update key cost).1, victims := none, added := false,
          events := (l.update key cost).2.2 }) ∨
    (cost ≤ l.maxCost ∧ l.costs.get key = none ∧ l.roomLeft cost ≥ 0 ∧
      policyAdd l est key cost refills =
        { lfu := l.increment key cost, victims := none, added := true, events := [MEv.costAdd cost] }) ∨
    (cost ≤ l.maxCost ∧ l.costs.get key = none ∧ l.roomLeft cost < 0 ∧
      policyAdd l est key cost refills = evictLoop est (est key) key cost l [] [] [] [] refills) := by
  by_cases hbig : cost > l.maxCost
  · exact .inl ⟨hbig, if_pos hbig⟩
  · have hle : cost ≤ l.maxCost := Int.not_lt.1 hbig
    have e : policyAdd l est key cost refills = _ := if_neg hbig
    rw [e]
    cases hg : l.costs.get key with
    | some prev => exact .inr (.inl ⟨prev, hle, rfl, by rw [Lfu.update_some cost hg]⟩)
    | none =>
      rw [Lfu.update_none cost hg]
      by_cases hroom : l.roomLeft cost ≥ 0
      · exact .inr (.inr (.inl ⟨hle, rfl, hroom, if_pos hroom⟩))
      · exact .inr (.inr (.inr ⟨hle, rfl, Int.not_le.1 hroom, if_neg hroom⟩))

theorem policyAdd_spec (l : Lfu) (est : Nat → Int) (key : Nat) (cost : Int)
    (refills : List (List (Nat × Int))) (hinv : l.Inv) :
    AddSpec est l key cost (policyAdd l est key cost refills) := by
  -- outside the loop the log is empty, and a charge that is unchanged has not disappeared
  have nolog : ∀ {p : IterLog → Prop}, ∀ it ∈ ([] : List IterLog), p it :=
    fun _ h => absurd h List.not_mem_nil
  have kept : ∀ {c : KMap Int} {j : Nat}, (l.costs.get j).isSome → c.get j = l.costs.get j →
      c.get j = none → ∃ it ∈ ([] : List IterLog), ∃ vc, it.victim = some (j, vc) :=
    fun hs he hn => by rw [he] at hn; rw [hn] at hs; cases hs
  rcases policyAdd_cases l est key cost refills with
    ⟨hbig, e⟩ | ⟨prev, hle, hg, e⟩ | ⟨hle, hg, hroom, e⟩ | ⟨hle, hg, hroom, e⟩ <;> rw [e]
  · have hnle : ¬ cost ≤ l.maxCost := Int.not_le.2 hbig
    exact ⟨hinv, rfl, fun _ => ⟨rfl, rfl, rfl⟩, fun h => absurd h hnle, fun h => absurd h hnle, nofun,
      nolog, fun h => absurd rfl h, nofun, fun h => absurd h hnle, fun _ _ => Or.inr rfl, nolog,
      fun _ _ hs => kept hs rfl, fun _ h => h⟩
  · have hk : (l.update key cost).1.costs.get key = some cost := by simp [Lfu.update_get, hg]
    have hj : ∀ j, j ≠ key → (l.update key cost).1.costs.get j = l.costs.get j :=
      fun j hj => by simp [Lfu.update_get, hj]
    have hne : l.costs.get key ≠ none := by simp [hg]
    exact ⟨Lfu.update_inv l key cost hinv, (Lfu.update_fields l key cost).1,
      fun h => absurd hle (Int.not_le.2 h), fun _ _ => ⟨rfl, rfl, hk, hj⟩, fun _ h => absurd h hne, nofun,
      nolog, fun h => absurd rfl h, nofun, fun _ h => absurd h hne, fun j hj' => Or.inr (hj j hj'), nolog,
      fun j hj' hs => kept hs (hj j hj'), fun _ h => absurd h hne⟩
  · have hk : (l.increment key cost).costs.get key = some cost :=
      (l.increment_get ..).trans (if_pos rfl)
    have hj : ∀ j, j ≠ key → (l.increment key cost).costs.get j = l.costs.get j :=
      fun j hj => (l.increment_get ..).trans (if_neg hj)
    have hno : ¬ ∃ prev, l.costs.get key = some prev := by simp [hg]
    exact ⟨Lfu.increment_inv l key cost hinv hg, rfl, fun h => absurd hle (Int.not_le.2 h),
      fun _ h => absurd h hno, fun _ _ _ => ⟨rfl, rfl, hk, hj⟩,
      fun _ => ⟨l.increment_used_le key cost hroom, hk, hg⟩,
      nolog, fun h => absurd rfl h, nofun, fun _ _ h => absurd hroom (Int.not_le.2 h),
      fun j hj' => Or.inr (hj j hj'), nolog, fun j hj' hs => kept hs (hj j hj'), nofun⟩
  · have hs := (evictLoop_run est (est key) key cost l [] [] [] [] refills).spec hg hinv rfl rfl
      (fun _ => rfl) rfl nolog
    have hno : ¬ ∃ prev, l.costs.get key = some prev := by simp [hg]
    exact ⟨hs.inv, hs.maxCost, fun h => absurd hle (Int.not_le.2 h), fun _ h => absurd h hno,
      fun _ _ h => absurd h (Int.not_le.2 hroom),
      fun ha => ⟨(hs.admitted ha).1, (hs.admitted ha).2.1, hg⟩, hs.iters, fun _ => hs.victims,
      fun vs hv => Option.some.inj (hv.symm.trans hs.victims), fun _ _ _ => hs.reject_iff,
      hs.only_released, hs.released, hs.only_victims, fun ha _ => hs.refused ha⟩

theorem policyRemove_fst (l : Lfu) (k : Nat) : (policyRemove l k).1 = (l.remove k).1 := by
  unfold policyRemove; split <;> simp [*]

theorem policyRemove_get (l : Lfu) (k j : Nat) :
    (policyRemove l k).1.costs.get j = if j = k then none else l.costs.get j := by
  rw [policyRemove_fst, Lfu.remove_get]

theorem policyRemove_inv (l : Lfu) (k : Nat) (h : l.Inv) : (policyRemove l k).1.Inv := by
  rw [policyRemove_fst]; exact Lfu.remove_inv l k h

theorem Lfu.update_isSome (l : Lfu) (k : Nat) (x : Int) (j : Nat) :
    ((l.update k x).1.costs.get j).isSome = (l.costs.get j).isSome := by
  unfold Lfu.update
  cases hg : l.costs.get k with
  | none => rfl
  | some prev => exact KMap.isSome_get_set _ _ _ (by simp [hg]) j

namespace AddSpec
variable {est : Nat → Int} {l : Lfu} {key : Nat} {cost : Int} {R : AddResult}

/-- the victims reported are the victims of the loop's iterations, also when the loop was not entered -/
theorem victims_getD (spec : AddSpec est l key cost R) : R.victims.getD [] = R.log.filterMap (·.victim) := by
  cases hv : R.victims with
  | some vs => exact spec.victims_eq vs hv
  | none =>
    cases hl : R.log with
    | nil => rfl
    | cons it log => have := spec.victims_log (by simp [hl]); rw [hv] at this; cases this

/-- `policy.add` and the indices other than the incoming one: a victim's charge is gone, every other
charge is as it was -/
theorem get_of_ne (spec : AddSpec est l key cost R) {j : Nat} (hj : j ≠ key) :
    R.lfu.costs.get j = if j ∈ (R.victims.getD []).map (·.1) then none else l.costs.get j := by
  rw [spec.victims_getD]
  split
  · rename_i hm
    obtain ⟨p, hp, rfl⟩ := List.mem_map.mp hm
    obtain ⟨it, hit, hvic⟩ := List.mem_filterMap.mp hp
    exact spec.released it hit p hvic hj
  · rename_i hm
    rcases spec.only_released j hj with hn | hs
    · cases hg : l.costs.get j with
      | none => exact hn
      | some x =>
        obtain ⟨it, hit, vc, hvic⟩ := spec.only_victims j hj (by simp [hg]) hn
        exact absurd (List.mem_map.mpr ⟨(j, vc), List.mem_filterMap.mpr ⟨it, hit, hvic⟩, rfl⟩) hm
    · exact hs

/-- oversize, re-priced in place or refused: the incoming index is charged afterwards iff it was before -/
theorem isSome_of_not_added (spec : AddSpec est l key cost R) (ha : R.added = false) :
    (R.lfu.costs.get key).isSome = (l.costs.get key).isSome := by
  by_cases hbig : cost > l.maxCost
  · rw [(spec.oversize hbig).2.1]
  · cases hg : l.costs.get key with
    | none => rw [spec.refused ha hg]
    | some prev => rw [(spec.update (by omega) ⟨prev, hg⟩).2.2.1]; rfl

end AddSpec

/-- a key the policy already charges is never admitted anew and evicts nothing: it is re-charged in place, or
refused when over-sized -/
theorem AddSpec.charged {est : Nat → Int} {l : Lfu} {key : Nat} {cost : Int} {R : AddResult}
    (sp : AddSpec est l key cost R) (hch : (l.costs.get key).isSome = true) : R.added = false ∧ R.victims = none := by
  by_cases hbig : cost > l.maxCost
  · exact ⟨(sp.oversize hbig).1, (sp.oversize hbig).2.2⟩
  · have := sp.update (by omega) (Option.isSome_iff_exists.mp hch)
    exact ⟨this.1, this.2.1⟩


/-- guard on the oracle input of the eviction loop: at every iteration the appended sample entries
are what `fill_sample` may append for the *current* bookkeeping (`Lfu.validRefill`) -/
def RefillsOk (est : Nat → Int) (incHits : Int) (cost : Int) :
    Lfu → List (Nat × Int) → List (List (Nat × Int)) → Prop
  | _, _, [] => True
  | l, sample, extras :: more =>
    if l.roomLeft cost ≥ 0 then True
    else l.validRefill sample.length extras = true ∧
      (match minEntry est (sample ++ extras) with
       | none => True
       | some (i, (vk, _), h) =>
         if incHits < h then True
         else RefillsOk est incHits cost (l.remove vk).1 (swapRemove (sample ++ extras) i) more)

/-- the guard at an iteration that evicts: the refill is valid, and the guard holds of the next state -/
theorem RefillsOk.evict {est : Nat → Int} {incHits cost : Int} {l : Lfu} {s x : List (Nat × Int)}
    {rf : List (List (Nat × Int))} {i vk : Nat} {vc h : Int}
    (hok : RefillsOk est incHits cost l s (x :: rf)) (hroom : l.roomLeft cost < 0)
    (hmin : minEntry est (s ++ x) = some (i, (vk, vc), h)) (hge : ¬ incHits < h) :
    l.validRefill s.length x = true ∧
      RefillsOk est incHits cost (l.remove vk).1 (swapRemove (s ++ x) i) rf := by
  simpa only [RefillsOk, Int.not_le.2 hroom, hmin, hge, if_false] using hok

theorem mem_swapRemove (s : List (Nat × Int)) (i : Nat) (x : Nat × Int) (h : x ∈ swapRemove s i) : x ∈ s := by
  unfold swapRemove at h
  split at h
  · exact h
  · next last hl =>
    rcases List.mem_or_eq_of_mem_set (List.dropLast_subset _ h) with h | rfl
    · exact h
    · exact List.mem_of_getLast? hl

/-- every victim of the loop is reported with the cost it was charged before the call -/
theorem evictLoop_victims_charged (est : Nat → Int) (incHits : Int) (key : Nat) (cost : Int) (l0 : Lfu)
    (refills : List (List (Nat × Int))) :
    ∀ (l : Lfu) (sample victims : List (Nat × Int)) (evs : List MEv) (log : List IterLog),
      (∀ j c, l.costs.get j = some c → l0.costs.get j = some c) →
      (∀ p ∈ sample, l0.costs.get p.1 = some p.2) →
      (∀ p ∈ victims, l0.costs.get p.1 = some p.2) →
      RefillsOk est incHits cost l sample refills →
      ∀ vs, (evictLoop est incHits key cost l sample victims evs log refills).victims = some vs →
        ∀ p ∈ vs, l0.costs.get p.1 = some p.2 := by
  intro l sample victims evs log hsub hs hv hok
  have run := evictLoop_run est incHits key cost l sample victims evs log refills
  generalize evictLoop est incHits key cost l sample victims evs log refills = R at run
  induction run with
  | admit | stuck | reject => rintro _ ⟨⟩ p hp; exact hv p (List.mem_reverse.1 hp)
  | @evict l s _ _ _ x _ _ _ _ _ _ hroom hmin hge _ ih =>
    obtain ⟨hvalid, hok⟩ := hok.evict hroom hmin hge
    -- the refilled sample still carries the original charges
    have hs' : ∀ q ∈ s ++ x, l0.costs.get q.1 = some q.2 := fun q hq =>
      (List.mem_append.1 hq).elim (hs q) fun hq => hsub _ _ ((Lfu.validRefill_spec _ _ _ hvalid).1 q hq)
    refine ih (fun j c hj => ?_) (fun q hq => hs' q (mem_swapRemove _ _ _ hq))
      (List.forall_mem_cons.2 ⟨hs' _ (List.mem_of_getElem? (minEntry_spec est _ _ _ _ hmin).1), hv⟩) hok
    rw [Lfu.remove_get] at hj
    split at hj
    · cases hj
    · exact hsub j c hj

/-- `policy.add`: every victim is reported with its charge before the call -/
theorem policyAdd_victims_charged (l : Lfu) (est : Nat → Int) (key : Nat) (cost : Int)
    (refills : List (List (Nat × Int)))
    (hok : RefillsOk est (est key) cost l [] refills) :
    ∀ vs, (policyAdd l est key cost refills).victims = some vs → ∀ p ∈ vs, l.costs.get p.1 = some p.2 := by
  rcases policyAdd_cases l est key cost refills with ⟨_, e⟩ | ⟨_, _, _, e⟩ | ⟨_, _, _, e⟩ | ⟨_, _, _, e⟩ <;>
    rw [e]
  iterate 3 exact nofun
  exact evictLoop_victims_charged est (est key) key cost l refills l [] [] [] [] (fun _ _ h => h) nofun
    nofun hok

end Stretto
