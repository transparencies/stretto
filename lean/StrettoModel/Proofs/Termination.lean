import StrettoModel.Proofs.Policy
/-!
# The eviction loop of `policy.add` terminates

The Rust loop has no explicit bound: it runs while room is lacking, refills the sample from the cost
map (possibly with duplicates of keys already in the sample), evicts the least popular sample entry and
recomputes the room. Measure: `#charged · S + #stale`, where `S` is the sample size and an entry is
*stale* when its key is no longer charged. Every iteration that does not end the loop lowers it.
-/
namespace Stretto

theorem countP_set_add {α : Type} (P : α → Bool) (l : List α) (i : Nat) (y x : α) (h : l[i]? = some x) :
    (l.set i y).countP P + (if P x then 1 else 0) = l.countP P + (if P y then 1 else 0) := by
  obtain ⟨hi, rfl⟩ := List.getElem?_eq_some_iff.1 h
  have : (if P l[i] then 1 else 0) ≤ l.countP P := by
    split
    · exact List.countP_pos_iff.2 ⟨_, List.getElem_mem hi, ‹_›⟩
    · exact Nat.zero_le _
  rw [List.countP_set hi]; omega

/-- `swapRemove` removes exactly the entry at the index, as far as counting goes -/
theorem countP_swapRemove (P : Nat × Int → Bool) (s : List (Nat × Int)) (i : Nat) (x : Nat × Int)
    (hx : s[i]? = some x) :
    (swapRemove s i).countP P + (if P x then 1 else 0) = s.countP P ∧
    (swapRemove s i).length + 1 = s.length := by
  have hne : s ≠ [] := by rintro rfl; simp at hx
  -- `s = a ++ [y]`; writing `y` at `i` leaves `y` last, so dropping the last entry drops a `y`
  obtain ⟨a, y, rfl⟩ : ∃ a y, s = a ++ [y] := ⟨_, _, (List.dropLast_concat_getLast hne).symm⟩
  obtain ⟨a', ha'⟩ : ∃ a', (a ++ [y]).set i y = a' ++ [y] := by
    rw [List.set_append]; split
    · exact ⟨_, rfl⟩
    · exact ⟨a, by cases i - a.length <;> rfl⟩
  have hc := countP_set_add P (a ++ [y]) i y x hx
  have hlen : a'.length = a.length := by simpa using (congrArg List.length ha').symm
  simp only [swapRemove, List.getLast?_concat, ha', List.dropLast_concat, List.countP_append,
    List.countP_singleton, List.length_append, List.length_singleton] at hc ⊢
  omega

/-- sample entries whose key is no longer charged -/
def staleCount (l : Lfu) (s : List (Nat × Int)) : Nat := s.countP (fun p => (l.costs.get p.1).isNone)

/-- the termination measure -/
def loopMeasure (l : Lfu) (s : List (Nat × Int)) : Nat := l.costs.length * l.samples + staleCount l s

/-- an iteration that evicts lowers the measure and keeps the sample within `samples`: the refill adds
only charged keys; then either the victim was stale and is dropped from the sample, or a charged key is
released, which outweighs whatever becomes stale in a sample of fewer than `samples` entries -/
theorem loopMeasure_evict (l : Lfu) (s x : List (Nat × Int)) (i vk : Nat) (vc : Int) (hinv : l.Inv)
    (hlen : s.length ≤ l.samples) (hvalid : l.validRefill s.length x = true)
    (hget : (s ++ x)[i]? = some (vk, vc)) :
    (swapRemove (s ++ x) i).length ≤ (l.remove vk).1.samples ∧
    loopMeasure (l.remove vk).1 (swapRemove (s ++ x) i) < loopMeasure l s := by
  obtain ⟨hch, hfit, _⟩ := l.validRefill_spec _ _ hvalid
  have hfit := hfit hlen
  obtain ⟨hcnt, hlen'⟩ := countP_swapRemove (fun p => (l.costs.get p.1).isNone) (s ++ x) i (vk, vc) hget
  have hx : x.countP (fun p => (l.costs.get p.1).isNone) = 0 :=
    List.countP_eq_zero.2 fun p hp => by simp [hch p hp]
  rw [List.length_append] at hlen'
  rw [List.countP_append, hx] at hcnt
  unfold loopMeasure staleCount
  rw [(l.remove_fields vk).2]
  refine ⟨by omega, ?_⟩
  cases hg : l.costs.get vk with
  | none =>
    rw [Lfu.remove_costs, KMap.erase_of_get_none _ _ hg]
    simp only [hg, Option.isNone_none, if_true] at hcnt
    omega
  | some c =>
    have hl := l.remove_length vk hinv
    have hst : (swapRemove (s ++ x) i).countP (fun p => ((l.remove vk).1.costs.get p.1).isNone) ≤
        (swapRemove (s ++ x) i).length := List.countP_le_length
    rw [hg, Option.isSome_some, if_pos rfl] at hl
    rw [← hl, Nat.add_mul]
    omega

/-- **the eviction loop terminates**: with valid refills at every iteration, the loop needs at most
`#charged · S + #stale + 1` iterations — it never runs out of the iterations it is offered
(`stuck = false`) when that many are available. -/
theorem EvictRun.terminates {est : Nat → Int} {incHits : Int} {key : Nat} {cost : Int} {l : Lfu}
    {s vs : List (Nat × Int)} {evs : List MEv} {log : List IterLog} {rf : List (List (Nat × Int))}
    {R : AddResult} (run : EvictRun est incHits key cost l s vs evs log rf R) (hinv : l.Inv)
    (hlen : s.length ≤ l.samples) (hok : RefillsOk est incHits cost l s rf)
    (hmu : loopMeasure l s < rf.length) : R.stuck = false := by
  induction run with
  | admit | reject => rfl
  | stuck => exact absurd hmu (Nat.not_lt_zero _)
  | @evict l s _ _ _ x _ i vk vc _ _ hroom hmin hge _ ih =>
    obtain ⟨hvalid, hok⟩ := hok.evict hroom hmin hge
    obtain ⟨hlen', hlt⟩ :=
      loopMeasure_evict l s x i vk vc hinv hlen hvalid (minEntry_spec est _ _ _ _ hmin).1
    exact ih (l.remove_inv vk hinv) hlen' hok (by rw [List.length_cons] at hmu; omega)

/-- `policy.add` as a whole: offered `#charged · S + 1` iterations with valid refills, it completes -/
theorem policyAdd_terminates (l : Lfu) (est : Nat → Int) (key : Nat) (cost : Int)
    (refills : List (List (Nat × Int))) (hinv : l.Inv)
    (hok : RefillsOk est (est key) cost l [] refills)
    (hmany : l.costs.length * l.samples < refills.length) :
    (policyAdd l est key cost refills).stuck = false := by
  rcases policyAdd_cases l est key cost refills with ⟨_, e⟩ | ⟨_, _, _, e⟩ | ⟨_, _, _, e⟩ | ⟨_, _, _, e⟩ <;>
    rw [e]
  -- outside the loop `stuck = false` holds by `rfl`, which `rw` tries
  exact (evictLoop_run est (est key) key cost l [] [] [] [] refills).terminates hinv (Nat.zero_le _) hok
    hmany

end Stretto
