import StrettoModel.Model.Cache
import StrettoModel.Proofs.Store
import StrettoModel.Proofs.Policy
/-!
# The cache operations by cases, and what each leaves alone

For every operation of `Model/Cache.lean` that branches: its outcomes, each with the resulting state
written out (`*_cases`, `*_eq`); for every operation: the fields it does not touch (`*_frame`, one
`simp` lemma each). The recursive helpers are folds of their one-step functions. Proofs about the
transition system use these and never unfold `Cache.*`.
-/
namespace Stretto

theorem List.foldl_preserves {α β : Type} {P : β → Prop} (f : β → α → β) (l : List α) (b : β)
    (h : ∀ b, P b → ∀ a ∈ l, P (f b a)) (h0 : P b) : P (l.foldl f b) := by
  induction l generalizing b with
  | nil => exact h0
  | cons a l ih =>
    exact ih _ (fun b hb x hx => h b hb x (List.mem_cons_of_mem _ hx)) (h b h0 a List.mem_cons_self)

namespace Cache

/-- counting is a record update: the switch sits inside the `metrics` field -/
theorem met_eq (c : Cache) (f : Metrics → Metrics) :
    c.met f = { c with metrics := if c.cfg.metricsOn then f c.metrics else c.metrics } := by
  unfold met; split <;> rfl

@[simp] theorem met_frame (c : Cache) (f : Metrics → Metrics) :
    (c.met f).cfg = c.cfg ∧ (c.met f).store = c.store ∧ (c.met f).lfu = c.lfu ∧ (c.met f).buf = c.buf ∧
    (c.met f).pendingSends = c.pendingSends ∧ (c.met f).clearQ = c.clearQ ∧ (c.met f).ring = c.ring ∧
    (c.met f).pq = c.pq ∧ (c.met f).tracked = c.tracked ∧ (c.met f).closed = c.closed ∧
    (c.met f).policyClosed = c.policyClosed ∧ (c.met f).procExited = c.procExited ∧
    (c.met f).released = c.released ∧ (c.met f).cbs = c.cbs := by
  rw [met_eq]; simp

theorem met_metrics (c : Cache) (f : Metrics → Metrics) :
    (c.met f).metrics = if c.cfg.metricsOn then f c.metrics else c.metrics := by
  rw [met_eq]

/-- the four outcomes of `insert` / `insert_if_present` -/
theorem insert_cases (c : Cache) (su : Nat → Nat → Bool) (k cf v : Nat) (cost : Int) (ttl now : Nat)
    (coster : Int) (only : Bool) :
    (∃ e, c.closed = false ∧ c.store.items.get k = some e ∧ Store.conflictOk cf e = true ∧ su e.val v = true ∧
      c.insert su k cf v cost ttl now coster only =
        ({ c with
            store := { items := c.store.items.set k { e with val := v, exp := ⟨ttl, now⟩ },
                       em := c.store.em.tryUpdate k cf e.exp ⟨ttl, now⟩ },
            cbs := CB.exit e.val :: c.cbs,
            buf := if c.buf.length < c.cfg.bufCap && !c.procExited
              then c.buf ++ [Item.update k cost (if cost == 0 then coster else 0)] else c.buf }, true)) ∨
    (c.closed = false ∧ only = false ∧ c.insert su k cf v cost ttl now coster only =
      ({ c with buf := c.buf ++ [Item.new k cf (cost + if cost == 0 then coster else 0) v ⟨ttl, now⟩] }, true)) ∨
    (c.closed = false ∧ only = false ∧ c.insert su k cf v cost ttl now coster only =
      (c.met fun m => { m with dropSets := u64 (m.dropSets + 1) }, false)) ∨
    c.insert su k cf v cost ttl now coster only = (c, false) := by
  generalize hr : c.insert su k cf v cost ttl now coster only = r
  unfold insert at hr
  rcases Bool.eq_false_or_eq_true c.closed with hcl | hcl
  · rw [hcl, if_pos rfl] at hr; exact Or.inr (Or.inr (Or.inr hr.symm))
  · rw [hcl, if_neg Bool.false_ne_true] at hr
    unfold insertBody at hr
    dsimp only at hr
    split at hr
    · exact Or.inr (Or.inr (Or.inr hr.symm))
    · rcases Store.tryUpdate_cases c.store su k v cf ⟨ttl, now⟩ with ⟨e, hg, hc, hs, h⟩ | ⟨h1, h2⟩
      · refine Or.inl ⟨e, hcl, hg, hc, hs, ?_⟩
        rw [h] at hr; dsimp only at hr; subst hr; split <;> rfl
      · split at hr
        · rename_i old h; exact absurd h (h2 old)
        · cases only with
          | true => exact Or.inr (Or.inr (Or.inr hr.symm))
          | false =>
            rw [if_neg Bool.false_ne_true] at hr
            split at hr
            · exact Or.inr (Or.inl ⟨hcl, rfl, hr.symm⟩)
            · exact Or.inr (Or.inr (Or.inl ⟨hcl, rfl, hr.symm⟩))


/-- an `insert` of a resident key that passes the conflict check and the validator: the entry is
replaced at once, and the `Update` item sent if the buffer has room -/
theorem insert_hit {c : Cache} {su : Nat → Nat → Bool} {k cf v : Nat} {e : Entry} (cost : Int) (ttl now : Nat)
    (coster : Int) (hopen : c.closed = false) (he : c.store.items.get k = some e)
    (h : (Store.conflictOk cf e && su e.val v) = true) :
    c.insert su k cf v cost ttl now coster false =
      ({ c with
          store := { items := c.store.items.set k { e with val := v, exp := ⟨ttl, now⟩ },
                     em := c.store.em.tryUpdate k cf e.exp ⟨ttl, now⟩ },
          cbs := CB.exit e.val :: c.cbs,
          buf := if c.buf.length < c.cfg.bufCap && !c.procExited
            then c.buf ++ [Item.update k cost (if cost == 0 then coster else 0)] else c.buf }, true) := by
  simp only [insert, insertBody, hopen, Store.tryUpdate_hit he h, Bool.false_and, Bool.false_eq_true, if_false]
  split <;> rfl

/-- any other `insert` sends a `New` item, provided the buffer has room -/
theorem insert_miss {c : Cache} {su : Nat → Nat → Bool} {k cf v : Nat} (cost : Int) (ttl now : Nat) (coster : Int)
    (hopen : c.closed = false) (hroom : c.buf.length < c.cfg.bufCap) (halive : c.procExited = false)
    (hm : ∀ e, c.store.items.get k = some e → (Store.conflictOk cf e && su e.val v) = false) :
    c.insert su k cf v cost ttl now coster false =
      ({ c with buf := c.buf ++ [Item.new k cf (cost + if cost == 0 then coster else 0) v ⟨ttl, now⟩] }, true) := by
  simp only [insert, insertBody, hopen, hroom, halive, Bool.false_and, Bool.false_eq_true, if_false]
  split
  · exact absurd ‹_› ((Store.tryUpdate_miss hm).2 _)
  · simp

/-- `RingStripe::push`: the key joins the batch; a batch that has reached `buffer_items` is flushed —
discarded when the policy is closed, queued and counted as kept when the queue takes it, counted as
dropped when the bounded queue is full -/
theorem ringPush_cases (c : Cache) (k : Nat) :
    ((c.ring ++ [k]).length < c.cfg.ringCap ∧ c.ringPush k = { c with ring := c.ring ++ [k] }) ∨
    (c.cfg.ringCap ≤ (c.ring ++ [k]).length ∧
      ((c.policyClosed = true ∧ c.ringPush k = { c with ring := [] }) ∨
       (c.policyClosed = false ∧ (∀ cap, c.cfg.pqCap = some cap → c.pq.length < cap) ∧
         c.ringPush k = ({ c with ring := [], pq := c.pq ++ [c.ring ++ [k]] }).met fun m =>
           { m with keepGets := u64 (m.keepGets + (c.ring ++ [k]).length) }) ∨
       (c.policyClosed = false ∧ (∃ cap, c.cfg.pqCap = some cap ∧ cap ≤ c.pq.length) ∧
         c.ringPush k = ({ c with ring := [] }).met fun m =>
           { m with dropGets := u64 (m.dropGets + (c.ring ++ [k]).length) }))) := by
  unfold ringPush
  dsimp only
  split
  · refine Or.inr ⟨‹_›, ?_⟩
    rcases Bool.eq_false_or_eq_true c.policyClosed with hcl | hcl
    · exact Or.inl ⟨hcl, by rw [if_pos hcl]⟩
    · rw [if_neg (by simp [hcl])]
      cases hq : c.cfg.pqCap with
      | none => exact Or.inr (Or.inl ⟨hcl, fun _ h => (nomatch h), rfl⟩)
      | some cap =>
        dsimp only
        by_cases hfit : c.pq.length < cap
        · exact Or.inr (Or.inl ⟨hcl, fun _ h => by cases h; exact hfit, by rw [if_pos (by simpa using hfit)]⟩)
        · exact Or.inr (Or.inr ⟨hcl, ⟨cap, rfl, by omega⟩, by rw [if_neg (by simpa using hfit)]⟩)
  · exact Or.inl ⟨by omega, rfl⟩

@[simp] theorem ringPush_frame (c : Cache) (k : Nat) :
    (c.ringPush k).cfg = c.cfg ∧ (c.ringPush k).store = c.store ∧ (c.ringPush k).lfu = c.lfu ∧
    (c.ringPush k).buf = c.buf ∧ (c.ringPush k).pendingSends = c.pendingSends ∧
    (c.ringPush k).clearQ = c.clearQ ∧ (c.ringPush k).tracked = c.tracked ∧
    (c.ringPush k).closed = c.closed ∧ (c.ringPush k).policyClosed = c.policyClosed ∧
    (c.ringPush k).procExited = c.procExited ∧ (c.ringPush k).released = c.released ∧
    (c.ringPush k).cbs = c.cbs := by
  unfold ringPush
  dsimp only
  repeat' split
  all_goals simp

/-- a lookup: the key joins the get batch, then a hit or a miss is counted -/
theorem get_eq (c : Cache) (k cf now : Nat) (h : c.closed = false) :
    c.get k cf now =
      ((c.ringPush k).met fun m => if (c.store.get k cf now).isSome then { m with hit := u64 (m.hit + 1) }
        else { m with miss := u64 (m.miss + 1) }, c.store.get k cf now) := by
  simp only [get, h, Bool.false_eq_true, if_false, ringPush_frame]
  cases c.store.get k cf now <;> rfl

theorem getMutWrite_eq (c : Cache) (k cf now v : Nat) (h : c.closed = false) :
    c.getMutWrite k cf now v =
      (match c.store.lookup k cf now with
       | none => ((c.ringPush k).met fun m => { m with miss := u64 (m.miss + 1) }, none)
       | some e => (({ c.ringPush k with store := { c.store with items := c.store.items.set k { e with val := v } } }).met
            fun m => { m with hit := u64 (m.hit + 1) }, some e.val)) := by
  simp only [getMutWrite, h, Bool.false_eq_true, if_false, ringPush_frame, Store.getMutWrite]
  cases c.store.lookup k cf now <;> rfl


theorem get_snd (c : Cache) (k cf now : Nat) :
    (c.get k cf now).2 = if c.closed then none else c.store.get k cf now := by
  rcases Bool.eq_false_or_eq_true c.closed with h | h
  · simp [get, h]
  · simp [get_eq c k cf now h, h]

theorem getMutWrite_snd (c : Cache) (k cf now v : Nat) :
    (c.getMutWrite k cf now v).2 = if c.closed then none else (c.store.lookup k cf now).map (·.val) := by
  rcases Bool.eq_false_or_eq_true c.closed with h | h
  · simp [getMutWrite, h]
  · rw [getMutWrite_eq c k cf now v h]; cases c.store.lookup k cf now <;> simp [h]

/-- what a lookup serves is the value of the resident entry -/
theorem get_resident {c : Cache} {k cf now v : Nat} (h : (c.get k cf now).2 = some v) :
    ∃ e, c.store.items.get k = some e ∧ e.val = v := by
  rcases Bool.eq_false_or_eq_true c.closed with hc | hc
  · simp [get, hc] at h
  · rw [get_eq c k cf now hc] at h
    obtain ⟨e, hl, rfl⟩ := Option.map_eq_some_iff.mp h
    exact ⟨e, (Store.lookup_some _ _ _ _ _ hl).1, rfl⟩

/-- `remove`: the entry goes at once (with its `on_exit`); the `Delete` item joins the buffer, or the
blocked senders when the buffer is full -/
theorem remove_eq (c : Cache) (k cf : Nat) (h : c.closed = false) :
    c.remove k cf =
      ({ c with
          store := (c.store.tryRemove k cf).1,
          cbs := ((c.store.tryRemove k cf).2.map fun e => CB.exit e.val).toList ++ c.cbs,
          buf := if c.buf.length < c.cfg.bufCap && c.pendingSends.isEmpty
            then c.buf ++ [Item.delete k cf] else c.buf,
          pendingSends := if c.buf.length < c.cfg.bufCap && c.pendingSends.isEmpty
            then c.pendingSends else c.pendingSends ++ [Item.delete k cf] },
       !(decide (c.buf.length < c.cfg.bufCap) && c.pendingSends.isEmpty)) := by
  simp only [remove, h, Bool.false_eq_true, if_false]
  rcases Store.tryRemove_cases c.store k cf with ⟨e, -, -, hr⟩ | ⟨hr, -⟩ <;> rw [hr] <;> dsimp only <;> split <;> simp [*]

theorem admitPending_cases (c : Cache) :
    c.admitPending = c ∨
    ∃ it rest, c.pendingSends = it :: rest ∧ c.buf.length < c.cfg.bufCap ∧
      c.admitPending = { c with buf := c.buf ++ [it], pendingSends := rest } := by
  unfold admitPending
  split
  · split
    · rename_i it rest hp hlt; exact Or.inr ⟨it, rest, hp, hlt, rfl⟩
    · exact Or.inl rfl
  · exact Or.inl rfl


/-- `policy.remove(k)` with its metric events -/
def uncharge (c : Cache) (k : Nat) : Cache :=
  ({ c with lfu := (policyRemove c.lfu k).1 }).met fun m => m.applyEvs (policyRemove c.lfu k).2

/-- an admission victim leaves the store: `on_evict` with the charge the policy reported, and a life
sample if its admission was tracked -/
def evictOne (c : Cache) (p : Nat × Int) : Cache := c.evictVictims [p]

theorem evictVictims_eq_foldl (vs : List (Nat × Int)) (c : Cache) :
    c.evictVictims vs = vs.foldl evictOne c := by
  induction vs generalizing c with
  | nil => rfl
  | cons p rest ih =>
    obtain ⟨vk, vc⟩ := p
    simp only [List.foldl_cons, evictOne, evictVictims]
    split <;> exact ih _

theorem evictOne_cases (c : Cache) (vk : Nat) (vc : Int) :
    (c.store.items.get vk = none ∧ c.evictOne (vk, vc) = c) ∨
    ∃ e, c.store.items.get vk = some e ∧
      c.evictOne (vk, vc) =
        ({ c with
            store := { items := c.store.items.erase vk,
                       em := if e.exp.isZero then c.store.em else c.store.em.tryRemove vk e.exp },
            cbs := CB.evict vk e.conflict e.val vc :: c.cbs,
            tracked := c.tracked.filter (· != vk) }).met
          fun m => if c.tracked.contains vk then { m with lifeCount := m.lifeCount + 1 } else m := by
  simp only [evictOne, evictVictims]
  rcases Store.tryRemove_cases c.store vk 0 with ⟨e, hg, -, hr⟩ | ⟨hr, hno⟩
  · refine Or.inr ⟨e, hg, ?_⟩
    rw [hr]; dsimp only
    split
    · rfl
    · simp [met]
  · refine Or.inl ⟨?_, by rw [hr]⟩
    cases hg : c.store.items.get vk with
    | none => rfl
    | some e => exact absurd (hno e hg) (by simp)


/-- applying a `New` item: the policy decides; an admitted value enters the store and `KeyAdd` is
counted, a refused one is handed to `on_reject`; then the victims leave the store -/
theorem handleItem_new (c : Cache) (su : Nat → Nat → Bool) (est : Nat → Int)
    (refills : List (List (Nat × Int))) (k cf : Nat) (cost : Int) (v : Nat) (exp : Time) :
    c.handleItem su est refills (.new k cf cost v exp) =
      let R := policyAdd c.lfu est k (c.internalCost cost) refills
      let c1 := ({ c with lfu := R.lfu } : Cache).met fun m => m.applyEvs R.events
      ((R.victims.getD []).foldl evictOne
        (if R.added then
          ({ c1 with store := c.store.tryInsert su k v cf exp }).met
            fun m => { m with keyAdd := u64 (m.keyAdd + 1) }
         else { c1 with cbs := CB.reject k cf v (c.internalCost cost) :: c.cbs })) := by
  simp only [handleItem, ← evictVictims_eq_foldl]
  cases (policyAdd c.lfu est k (c.internalCost cost) refills).victims <;>
    cases (policyAdd c.lfu est k (c.internalCost cost) refills).added <;>
    simp [met, evictVictims] <;> split <;> rfl


/-- a `New` item for a key the policy already charges (sent by an insert that `try_update` vetoed) leaves the
store alone: the policy re-charges in place or refuses; nothing is admitted, nothing evicted -/
theorem handleItem_new_of_charged (c : Cache) (su : Nat → Nat → Bool) (est : Nat → Int)
    (refills : List (List (Nat × Int))) (k cf v : Nat) (cost : Int) (exp : Time)
    (hinv : c.lfu.Inv) (hch : (c.lfu.costs.get k).isSome = true) :
    (c.handleItem su est refills (Item.new k cf cost v exp)).store = c.store := by
  obtain ⟨hadd, hvic⟩ := (policyAdd_spec c.lfu est k (c.internalCost cost) refills hinv).charged hch
  simp [handleItem_new, hadd, hvic]

theorem handleItem_update (c : Cache) (su : Nat → Nat → Bool) (est : Nat → Int)
    (refills : List (List (Nat × Int))) (k : Nat) (cost ext : Int) :
    c.handleItem su est refills (.update k cost ext) =
      ({ c with lfu := (c.lfu.update k (c.internalCost cost + ext)).1 }).met
        fun m => m.applyEvs (c.lfu.update k (c.internalCost cost + ext)).2.2 := rfl

theorem handleItem_wait (c : Cache) (su : Nat → Nat → Bool) (est : Nat → Int)
    (refills : List (List (Nat × Int))) (id : Nat) :
    c.handleItem su est refills (.wait id) = { c with released := id :: c.released } := rfl

/-- applying a `Delete` item: an entry that is still there and passes the conflict check goes (with
`on_exit`); the charge is released unless another entry holds the index -/
theorem handleItem_delete_cases (c : Cache) (su : Nat → Nat → Bool) (est : Nat → Int)
    (refills : List (List (Nat × Int))) (k cf : Nat) :
    (c.store.items.get k = none ∧ c.handleItem su est refills (.delete k cf) = c.uncharge k) ∨
    ∃ e, c.store.items.get k = some e ∧
      ((Store.conflictOk cf e = false ∧ c.handleItem su est refills (.delete k cf) = c) ∨
       (Store.conflictOk cf e = true ∧ c.handleItem su est refills (.delete k cf) =
          { c.uncharge k with
            store := { items := c.store.items.erase k,
                       em := if e.exp.isZero then c.store.em else c.store.em.tryRemove k e.exp },
            cbs := CB.exit e.val :: c.cbs })) := by
  unfold handleItem
  dsimp only
  rcases Store.tryRemove_cases c.store k cf with ⟨e, hg, hc, hr⟩ | ⟨hr, hno⟩
  · refine Or.inr ⟨e, hg, Or.inr ⟨hc, ?_⟩⟩
    simp only [hr, Store.expiration, KMap.get_erase, if_true, Option.map_none, Option.isNone_none, uncharge, met]
    split <;> rfl
  · rw [hr]
    cases hg : c.store.items.get k with
    | none => exact Or.inl ⟨rfl, by simp [Store.expiration, hg, uncharge]⟩
    | some e => exact Or.inr ⟨e, rfl, Or.inl ⟨hno e hg, by simp [Store.expiration, hg]⟩⟩


theorem handleItem_delete_store (c : Cache) (su : Nat → Nat → Bool) (est : Nat → Int)
    (refills : List (List (Nat × Int))) (k cf : Nat) :
    (c.handleItem su est refills (.delete k cf)).store = (c.store.tryRemove k cf).1 := by
  simp only [handleItem]
  split <;> split <;> simp

/-- one key of a due bucket: an expired entry is released by the policy and, if the conflict hash filed
with it passes, removed and reported to `on_evict` with the charge it had -/
theorem sweepOne_cases (c : Cache) (now k cf : Nat) :
    (c.sweepOne now k cf = (c, none) ∧
      ∀ e, c.store.items.get k = some e → (!e.exp.isZero && e.exp.isExpired now) = false) ∨
    ∃ e, c.store.items.get k = some e ∧ (!e.exp.isZero && e.exp.isExpired now) = true ∧
      ((Store.conflictOk cf e = false ∧ c.sweepOne now k cf = (c.uncharge k, none)) ∨
       (Store.conflictOk cf e = true ∧ c.sweepOne now k cf =
          ({ c.uncharge k with
              store := { items := c.store.items.erase k,
                         em := if e.exp.isZero then c.store.em else c.store.em.tryRemove k e.exp } },
           some (CB.evict k e.conflict e.val (policyCost c.lfu k))))) := by
  unfold sweepOne Store.expiration
  cases hg : c.store.items.get k with
  | none => exact Or.inl ⟨rfl, fun _ h => nomatch h⟩
  | some e =>
    cases hd : (!e.exp.isZero && e.exp.isExpired now) with
    | false => exact Or.inl ⟨by simp [hd], fun e' h => by cases h; exact hd⟩
    | true =>
      refine Or.inr ⟨e, rfl, hd, ?_⟩
      simp only [Option.map_some, hd, if_true]
      rcases Store.tryRemove_cases c.store k cf with ⟨e', hg', hc, hr⟩ | ⟨hr, hno⟩
      · rw [hg] at hg'; cases hg'
        exact Or.inr ⟨hc, by simp only [hr, uncharge, met]⟩
      · exact Or.inl ⟨hno e hg, by simp only [hr, uncharge]⟩

theorem sweepKeys_fst (keys : List (Nat × Nat)) (c : Cache) (now : Nat) (acc : List CB) :
    (c.sweepKeys now keys acc).1 = keys.foldl (fun c p => (c.sweepOne now p.1 p.2).1) c := by
  induction keys generalizing c acc with
  | nil => rfl
  | cons p rest ih => exact ih _ _


@[simp] theorem uncharge_frame (c : Cache) (k : Nat) :
    (c.uncharge k).cfg = c.cfg ∧ (c.uncharge k).store = c.store ∧ (c.uncharge k).buf = c.buf ∧
    (c.uncharge k).pendingSends = c.pendingSends ∧ (c.uncharge k).clearQ = c.clearQ ∧
    (c.uncharge k).ring = c.ring ∧ (c.uncharge k).pq = c.pq ∧ (c.uncharge k).tracked = c.tracked ∧
    (c.uncharge k).closed = c.closed ∧ (c.uncharge k).policyClosed = c.policyClosed ∧
    (c.uncharge k).procExited = c.procExited ∧ (c.uncharge k).released = c.released ∧
    (c.uncharge k).cbs = c.cbs ∧ (c.uncharge k).lfu = (policyRemove c.lfu k).1 := by
  simp [uncharge]

@[simp] theorem evictOne_frame (c : Cache) (p : Nat × Int) :
    (c.evictOne p).cfg = c.cfg ∧ (c.evictOne p).lfu = c.lfu ∧ (c.evictOne p).buf = c.buf ∧
    (c.evictOne p).pendingSends = c.pendingSends ∧ (c.evictOne p).clearQ = c.clearQ ∧
    (c.evictOne p).ring = c.ring ∧ (c.evictOne p).pq = c.pq ∧ (c.evictOne p).closed = c.closed ∧
    (c.evictOne p).policyClosed = c.policyClosed ∧ (c.evictOne p).procExited = c.procExited ∧
    (c.evictOne p).released = c.released := by
  rcases evictOne_cases c p.1 p.2 with ⟨-, h⟩ | ⟨e, -, h⟩ <;> simp [h]

@[simp] theorem foldl_evictOne_frame (vs : List (Nat × Int)) (c : Cache) :
    (vs.foldl evictOne c).cfg = c.cfg ∧ (vs.foldl evictOne c).lfu = c.lfu ∧
    (vs.foldl evictOne c).buf = c.buf ∧ (vs.foldl evictOne c).pendingSends = c.pendingSends ∧
    (vs.foldl evictOne c).clearQ = c.clearQ ∧ (vs.foldl evictOne c).ring = c.ring ∧
    (vs.foldl evictOne c).pq = c.pq ∧ (vs.foldl evictOne c).closed = c.closed ∧
    (vs.foldl evictOne c).policyClosed = c.policyClosed ∧
    (vs.foldl evictOne c).procExited = c.procExited ∧ (vs.foldl evictOne c).released = c.released := by
  induction vs generalizing c <;> simp [*]

@[simp] theorem sweepOne_frame (c : Cache) (now k cf : Nat) :
    (c.sweepOne now k cf).1.cfg = c.cfg ∧ (c.sweepOne now k cf).1.buf = c.buf ∧
    (c.sweepOne now k cf).1.pendingSends = c.pendingSends ∧ (c.sweepOne now k cf).1.clearQ = c.clearQ ∧
    (c.sweepOne now k cf).1.ring = c.ring ∧ (c.sweepOne now k cf).1.pq = c.pq ∧
    (c.sweepOne now k cf).1.tracked = c.tracked ∧ (c.sweepOne now k cf).1.closed = c.closed ∧
    (c.sweepOne now k cf).1.policyClosed = c.policyClosed ∧
    (c.sweepOne now k cf).1.procExited = c.procExited ∧ (c.sweepOne now k cf).1.released = c.released ∧
    (c.sweepOne now k cf).1.cbs = c.cbs := by
  rcases sweepOne_cases c now k cf with ⟨h, -⟩ | ⟨e, -, -, ⟨-, h⟩ | ⟨-, h⟩⟩ <;> simp [h]

@[simp] theorem sweepKeys_frame (keys : List (Nat × Nat)) (c : Cache) (now : Nat) (acc : List CB) :
    (c.sweepKeys now keys acc).1.cfg = c.cfg ∧ (c.sweepKeys now keys acc).1.buf = c.buf ∧
    (c.sweepKeys now keys acc).1.pendingSends = c.pendingSends ∧
    (c.sweepKeys now keys acc).1.clearQ = c.clearQ ∧ (c.sweepKeys now keys acc).1.ring = c.ring ∧
    (c.sweepKeys now keys acc).1.pq = c.pq ∧ (c.sweepKeys now keys acc).1.tracked = c.tracked ∧
    (c.sweepKeys now keys acc).1.closed = c.closed ∧
    (c.sweepKeys now keys acc).1.policyClosed = c.policyClosed ∧
    (c.sweepKeys now keys acc).1.procExited = c.procExited ∧
    (c.sweepKeys now keys acc).1.released = c.released ∧ (c.sweepKeys now keys acc).1.cbs = c.cbs := by
  induction keys generalizing c acc <;> simp [sweepKeys, *]

@[simp] theorem deliverEvictions_frame (cbs : List CB) (c : Cache) :
    (c.deliverEvictions cbs).cfg = c.cfg ∧ (c.deliverEvictions cbs).store = c.store ∧
    (c.deliverEvictions cbs).lfu = c.lfu ∧ (c.deliverEvictions cbs).buf = c.buf ∧
    (c.deliverEvictions cbs).pendingSends = c.pendingSends ∧ (c.deliverEvictions cbs).clearQ = c.clearQ ∧
    (c.deliverEvictions cbs).ring = c.ring ∧ (c.deliverEvictions cbs).pq = c.pq ∧
    (c.deliverEvictions cbs).closed = c.closed ∧ (c.deliverEvictions cbs).policyClosed = c.policyClosed ∧
    (c.deliverEvictions cbs).procExited = c.procExited ∧
    (c.deliverEvictions cbs).released = c.released ∧ (c.deliverEvictions cbs).cbs = cbs.reverse ++ c.cbs := by
  induction cbs generalizing c with
  | nil => simp [deliverEvictions]
  | cons cb rest ih => cases cb <;> simp [deliverEvictions, ih] <;> split <;> simp

@[simp] theorem drain_frame (items : List Item) (c : Cache) :
    (items.foldl drainItem c).cfg = c.cfg ∧ (items.foldl drainItem c).store = c.store ∧
    (items.foldl drainItem c).lfu = c.lfu ∧ (items.foldl drainItem c).buf = c.buf ∧
    (items.foldl drainItem c).pendingSends = c.pendingSends ∧ (items.foldl drainItem c).clearQ = c.clearQ ∧
    (items.foldl drainItem c).ring = c.ring ∧ (items.foldl drainItem c).pq = c.pq ∧
    (items.foldl drainItem c).metrics = c.metrics ∧ (items.foldl drainItem c).tracked = c.tracked ∧
    (items.foldl drainItem c).closed = c.closed ∧ (items.foldl drainItem c).policyClosed = c.policyClosed ∧
    (items.foldl drainItem c).procExited = c.procExited := by
  induction items generalizing c with
  | nil => simp
  | cons it rest ih => cases it <;> simp [drainItem, ih]


@[simp] theorem admitPending_frame (c : Cache) :
    c.admitPending.cfg = c.cfg ∧ c.admitPending.store = c.store ∧ c.admitPending.lfu = c.lfu ∧
    c.admitPending.clearQ = c.clearQ ∧ c.admitPending.ring = c.ring ∧ c.admitPending.pq = c.pq ∧
    c.admitPending.metrics = c.metrics ∧ c.admitPending.tracked = c.tracked ∧
    c.admitPending.closed = c.closed ∧ c.admitPending.policyClosed = c.policyClosed ∧
    c.admitPending.procExited = c.procExited ∧ c.admitPending.released = c.released ∧
    c.admitPending.cbs = c.cbs := by
  rcases admitPending_cases c with h | ⟨_, _, -, -, h⟩ <;> simp [h]

/-- handling an item is the processor's business with store, policy, metrics and callbacks: it touches
neither the queues nor the protocol flags -/
@[simp] theorem handleItem_frame (c : Cache) (su : Nat → Nat → Bool) (est : Nat → Int)
    (refills : List (List (Nat × Int))) (it : Item) :
    (c.handleItem su est refills it).cfg = c.cfg ∧ (c.handleItem su est refills it).buf = c.buf ∧
    (c.handleItem su est refills it).pendingSends = c.pendingSends ∧
    (c.handleItem su est refills it).clearQ = c.clearQ ∧ (c.handleItem su est refills it).ring = c.ring ∧
    (c.handleItem su est refills it).pq = c.pq ∧ (c.handleItem su est refills it).closed = c.closed ∧
    (c.handleItem su est refills it).policyClosed = c.policyClosed ∧
    (c.handleItem su est refills it).procExited = c.procExited := by
  cases it with
  | new k cf cost v exp => rw [handleItem_new]; dsimp only; split <;> simp
  | update k cost ext => simp [handleItem_update]
  | delete k cf =>
    rcases handleItem_delete_cases c su est refills k cf with ⟨-, h⟩ | ⟨e, -, ⟨-, h⟩ | ⟨-, h⟩⟩ <;> simp [h]
  | wait id => simp [handleItem_wait]


@[simp] theorem insert_frame (c : Cache) (su : Nat → Nat → Bool) (k cf v : Nat) (cost : Int) (ttl now : Nat)
    (coster : Int) (only : Bool) :
    (c.insert su k cf v cost ttl now coster only).1.cfg = c.cfg ∧
    (c.insert su k cf v cost ttl now coster only).1.lfu = c.lfu ∧
    (c.insert su k cf v cost ttl now coster only).1.pendingSends = c.pendingSends ∧
    (c.insert su k cf v cost ttl now coster only).1.clearQ = c.clearQ ∧
    (c.insert su k cf v cost ttl now coster only).1.ring = c.ring ∧
    (c.insert su k cf v cost ttl now coster only).1.pq = c.pq ∧
    (c.insert su k cf v cost ttl now coster only).1.tracked = c.tracked ∧
    (c.insert su k cf v cost ttl now coster only).1.closed = c.closed ∧
    (c.insert su k cf v cost ttl now coster only).1.policyClosed = c.policyClosed ∧
    (c.insert su k cf v cost ttl now coster only).1.procExited = c.procExited ∧
    (c.insert su k cf v cost ttl now coster only).1.released = c.released := by
  rcases insert_cases c su k cf v cost ttl now coster only with
    ⟨_, -, -, -, -, h⟩ | ⟨-, -, h⟩ | ⟨-, -, h⟩ | h <;> simp [h]

@[simp] theorem get_frame (c : Cache) (k cf now : Nat) :
    (c.get k cf now).1.cfg = c.cfg ∧ (c.get k cf now).1.store = c.store ∧ (c.get k cf now).1.lfu = c.lfu ∧
    (c.get k cf now).1.buf = c.buf ∧ (c.get k cf now).1.pendingSends = c.pendingSends ∧
    (c.get k cf now).1.clearQ = c.clearQ ∧ (c.get k cf now).1.tracked = c.tracked ∧
    (c.get k cf now).1.closed = c.closed ∧ (c.get k cf now).1.policyClosed = c.policyClosed ∧
    (c.get k cf now).1.procExited = c.procExited ∧ (c.get k cf now).1.released = c.released ∧
    (c.get k cf now).1.cbs = c.cbs := by
  rcases Bool.eq_false_or_eq_true c.closed with h | h
  · simp [get, h]
  · simp [get_eq c k cf now h]

@[simp] theorem getMutWrite_frame (c : Cache) (k cf now v : Nat) :
    (c.getMutWrite k cf now v).1.cfg = c.cfg ∧ (c.getMutWrite k cf now v).1.lfu = c.lfu ∧
    (c.getMutWrite k cf now v).1.buf = c.buf ∧ (c.getMutWrite k cf now v).1.pendingSends = c.pendingSends ∧
    (c.getMutWrite k cf now v).1.clearQ = c.clearQ ∧ (c.getMutWrite k cf now v).1.tracked = c.tracked ∧
    (c.getMutWrite k cf now v).1.closed = c.closed ∧
    (c.getMutWrite k cf now v).1.policyClosed = c.policyClosed ∧
    (c.getMutWrite k cf now v).1.procExited = c.procExited ∧
    (c.getMutWrite k cf now v).1.released = c.released ∧ (c.getMutWrite k cf now v).1.cbs = c.cbs := by
  rcases Bool.eq_false_or_eq_true c.closed with h | h
  · simp [getMutWrite, h]
  · rw [getMutWrite_eq c k cf now v h]; split <;> simp

@[simp] theorem remove_frame (c : Cache) (k cf : Nat) :
    (c.remove k cf).1.cfg = c.cfg ∧ (c.remove k cf).1.lfu = c.lfu ∧ (c.remove k cf).1.clearQ = c.clearQ ∧
    (c.remove k cf).1.ring = c.ring ∧ (c.remove k cf).1.pq = c.pq ∧
    (c.remove k cf).1.metrics = c.metrics ∧ (c.remove k cf).1.tracked = c.tracked ∧
    (c.remove k cf).1.closed = c.closed ∧ (c.remove k cf).1.policyClosed = c.policyClosed ∧
    (c.remove k cf).1.procExited = c.procExited ∧ (c.remove k cf).1.released = c.released := by
  rcases Bool.eq_false_or_eq_true c.closed with h | h
  · simp [remove, h]
  · simp [remove_eq c k cf h]

theorem waitEnq_cases (c : Cache) (id : Nat) :
    (c.waitEnq id).1 = c ∨ (c.waitEnq id).1 = { c with buf := c.buf ++ [Item.wait id] } := by
  unfold waitEnq
  split
  · exact .inl rfl
  · split
    · exact .inr rfl
    · exact .inl rfl

@[simp] theorem waitEnq_frame (c : Cache) (id : Nat) :
    (c.waitEnq id).1.cfg = c.cfg ∧ (c.waitEnq id).1.store = c.store ∧ (c.waitEnq id).1.lfu = c.lfu ∧
    (c.waitEnq id).1.pendingSends = c.pendingSends ∧ (c.waitEnq id).1.clearQ = c.clearQ ∧
    (c.waitEnq id).1.ring = c.ring ∧ (c.waitEnq id).1.pq = c.pq ∧ (c.waitEnq id).1.metrics = c.metrics ∧
    (c.waitEnq id).1.tracked = c.tracked ∧ (c.waitEnq id).1.closed = c.closed ∧
    (c.waitEnq id).1.policyClosed = c.policyClosed ∧ (c.waitEnq id).1.procExited = c.procExited ∧
    (c.waitEnq id).1.released = c.released ∧ (c.waitEnq id).1.cbs = c.cbs := by
  unfold waitEnq; split <;> (try split) <;> simp

@[simp] theorem clearReq_frame (c : Cache) (id : Nat) :
    (c.clearReq id).1.cfg = c.cfg ∧ (c.clearReq id).1.store = c.store ∧ (c.clearReq id).1.lfu = c.lfu ∧
    (c.clearReq id).1.buf = c.buf ∧ (c.clearReq id).1.pendingSends = c.pendingSends ∧
    (c.clearReq id).1.ring = c.ring ∧ (c.clearReq id).1.pq = c.pq ∧ (c.clearReq id).1.metrics = c.metrics ∧
    (c.clearReq id).1.tracked = c.tracked ∧ (c.clearReq id).1.closed = c.closed ∧
    (c.clearReq id).1.policyClosed = c.policyClosed ∧ (c.clearReq id).1.procExited = c.procExited ∧
    (c.clearReq id).1.released = c.released ∧ (c.clearReq id).1.cbs = c.cbs := by
  unfold clearReq; split <;> simp

@[simp] theorem closeBegin_frame (c : Cache) (id : Nat) :
    (c.closeBegin id).1.cfg = c.cfg ∧ (c.closeBegin id).1.store = c.store ∧ (c.closeBegin id).1.lfu = c.lfu ∧
    (c.closeBegin id).1.buf = c.buf ∧ (c.closeBegin id).1.pendingSends = c.pendingSends ∧
    (c.closeBegin id).1.ring = c.ring ∧ (c.closeBegin id).1.pq = c.pq ∧
    (c.closeBegin id).1.metrics = c.metrics ∧ (c.closeBegin id).1.tracked = c.tracked ∧
    (c.closeBegin id).1.policyClosed = c.policyClosed ∧ (c.closeBegin id).1.procExited = c.procExited ∧
    (c.closeBegin id).1.released = c.released ∧ (c.closeBegin id).1.cbs = c.cbs := by
  unfold closeBegin; split <;> simp

theorem evictOne_get (c : Cache) (p : Nat × Int) (j : Nat) :
    (c.evictOne p).store.items.get j = if j = p.1 then none else c.store.items.get j := by
  rcases evictOne_cases c p.1 p.2 with ⟨hg, h⟩ | ⟨e, -, h⟩
  · rw [h]; split
    · subst_vars; exact hg
    · rfl
  · simp [h]

theorem foldl_evictOne_get (vs : List (Nat × Int)) (c : Cache) (j : Nat) :
    (vs.foldl evictOne c).store.items.get j = if j ∈ vs.map (·.1) then none else c.store.items.get j := by
  induction vs generalizing c with
  | nil => rfl
  | cons p rest ih =>
    simp only [List.foldl_cons, ih, evictOne_get, List.map_cons]
    by_cases h : j ∈ rest.map (·.1)
    · rw [if_pos h, if_pos (List.mem_cons_of_mem _ h)]
    · rw [if_neg h]
      by_cases hp : j = p.1
      · rw [if_pos hp, if_pos (hp ▸ List.mem_cons_self)]
      · rw [if_neg hp, if_neg (fun hm => (List.mem_cons.mp hm).elim hp h)]

theorem sweepOne_shrinks (c : Cache) (now k cf j : Nat) :
    (c.sweepOne now k cf).1.store.items.get j = none ∨
    (c.sweepOne now k cf).1.store.items.get j = c.store.items.get j := by
  rcases sweepOne_cases c now k cf with ⟨h, -⟩ | ⟨e, -, -, ⟨-, h⟩ | ⟨-, h⟩⟩ <;> simp [h]
  by_cases hj : j = k <;> simp [hj]

/-- the rule for the sweep: what holds of state and collected callbacks before, and is kept by the
visit of each listed key, holds at the end -/
theorem sweepKeys_induction {P : Cache → List CB → Prop} {now : Nat} (keys : List (Nat × Nat)) (c : Cache)
    (acc : List CB) (h0 : P c acc)
    (hstep : ∀ c acc, P c acc → ∀ p ∈ keys,
      P (c.sweepOne now p.1 p.2).1 ((c.sweepOne now p.1 p.2).2.toList ++ acc)) :
    P (c.sweepKeys now keys acc).1 (c.sweepKeys now keys acc).2 := by
  induction keys generalizing c acc with
  | nil => exact h0
  | cons p rest ih =>
    unfold sweepKeys
    refine ih _ _ ?_ (fun c acc h q hq => hstep c acc h q (List.mem_cons_of_mem _ hq))
    have := hstep c acc h0 p List.mem_cons_self
    cases h : (c.sweepOne now p.1 p.2).2 <;> simpa [h] using this

theorem sweepKeys_shrinks (keys : List (Nat × Nat)) (c : Cache) (now : Nat) (acc : List CB) (j : Nat) :
    (c.sweepKeys now keys acc).1.store.items.get j = none ∨
    (c.sweepKeys now keys acc).1.store.items.get j = c.store.items.get j := by
  rw [sweepKeys_fst]
  refine List.foldl_preserves (P := fun b => b.store.items.get j = none ∨ b.store.items.get j = c.store.items.get j)
    _ keys c (fun b hb p _ => ?_) (Or.inr rfl)
  rcases sweepOne_shrinks b now p.1 p.2 j with h | h
  · exact Or.inl h
  · rw [h]; exact hb

theorem admitPending_inflight (c : Cache) :
    c.admitPending.buf ++ c.admitPending.pendingSends = c.buf ++ c.pendingSends := by
  rcases admitPending_cases c with h | ⟨it, rest, hp, -, h⟩ <;> rw [h]
  simp [hp]

theorem foldl_evictOne_wf (vs : List (Nat × Int)) (c : Cache) (h : c.store.items.WF) :
    (vs.foldl evictOne c).store.items.WF := by
  refine List.foldl_preserves (P := fun b => b.store.items.WF) _ vs c (fun b hb p _ => ?_) h
  rcases evictOne_cases b p.1 p.2 with ⟨-, hr⟩ | ⟨e, -, hr⟩ <;> rw [hr]
  · exact hb
  · simpa using KMap.wf_erase _ _ hb

/-- handling an item releases the waiter whose marker it is, and nobody else -/
theorem mem_handleItem_released (c : Cache) (su : Nat → Nat → Bool) (est : Nat → Int)
    (refills : List (List (Nat × Int))) (it : Item) (id : Nat) :
    id ∈ (c.handleItem su est refills it).released ↔ it = .wait id ∨ id ∈ c.released := by
  cases it with
  | new k cf cost v exp => rw [handleItem_new]; dsimp only; split <;> simp
  | update k cost ext => simp [handleItem_update]
  | delete k cf =>
    rcases handleItem_delete_cases c su est refills k cf with ⟨-, h⟩ | ⟨e, -, ⟨-, h⟩ | ⟨-, h⟩⟩ <;> simp [h]
  | wait w => simp [handleItem_wait, eq_comm]

theorem mem_drain_released (items : List Item) (c : Cache) (id : Nat) :
    id ∈ (items.foldl drainItem c).released ↔ Item.wait id ∈ items ∨ id ∈ c.released := by
  induction items generalizing c with
  | nil => simp
  | cons it rest ih => cases it <;> simp [ih, drainItem, eq_comm, or_left_comm, or_assoc]

theorem uncharge_get (c : Cache) (k j : Nat) :
    (c.uncharge k).lfu.costs.get j = if j = k then none else c.lfu.costs.get j := by
  simp only [uncharge_frame, policyRemove_get]

theorem sweepOne_charge_shrinks (c : Cache) (now k cf j : Nat) :
    (c.sweepOne now k cf).1.lfu.costs.get j = none ∨
    (c.sweepOne now k cf).1.lfu.costs.get j = c.lfu.costs.get j := by
  rcases sweepOne_cases c now k cf with ⟨h, -⟩ | ⟨e, -, -, ⟨-, h⟩ | ⟨-, h⟩⟩ <;> rw [h]
  · exact Or.inr rfl
  all_goals
    dsimp only; rw [uncharge_get]; split
    · exact Or.inl rfl
    · exact Or.inr rfl

theorem sweepKeys_charge_shrinks (keys : List (Nat × Nat)) (c : Cache) (now : Nat) (acc : List CB) (j : Nat) :
    (c.sweepKeys now keys acc).1.lfu.costs.get j = none ∨
    (c.sweepKeys now keys acc).1.lfu.costs.get j = c.lfu.costs.get j := by
  refine sweepKeys_induction (P := fun b _ => b.lfu.costs.get j = none ∨ b.lfu.costs.get j = c.lfu.costs.get j)
    keys c acc (Or.inr rfl) (fun b _ hb p _ => ?_)
  rcases sweepOne_charge_shrinks b now p.1 p.2 j with h | h
  · exact Or.inl h
  · rw [h]; exact hb

/-- what the victims' eviction adds to the callback log: an `on_evict` per victim found in the store,
with the cost the policy reported for that victim -/
theorem foldl_evictOne_cbs (vs : List (Nat × Int)) (c : Cache) {x : CB} (hx : x ∈ (vs.foldl evictOne c).cbs) :
    x ∈ c.cbs ∨ ∃ p ∈ vs, ∃ cf v, x = CB.evict p.1 cf v p.2 := by
  revert hx
  refine List.foldl_preserves (P := fun b => x ∈ b.cbs → x ∈ c.cbs ∨ ∃ p ∈ vs, ∃ cf v, x = CB.evict p.1 cf v p.2)
    _ vs c (fun b hb p hp => ?_) Or.inl
  rcases evictOne_cases b p.1 p.2 with ⟨-, h⟩ | ⟨e, -, h⟩ <;> rw [h]
  · exact hb
  · simp only [met_frame, List.mem_cons]
    rintro (rfl | hx)
    · exact Or.inr ⟨p, hp, _, _, rfl⟩
    · exact hb hx

theorem handleItem_new_lfu (c : Cache) (su : Nat → Nat → Bool) (est : Nat → Int)
    (refills : List (List (Nat × Int))) (k cf : Nat) (cost : Int) (v : Nat) (exp : Time) :
    (c.handleItem su est refills (.new k cf cost v exp)).lfu =
      (policyAdd c.lfu est k (c.internalCost cost) refills).lfu := by
  simp only [handleItem_new, foldl_evictOne_frame, apply_ite Cache.lfu, met_frame, ite_self]

/-- what one sweep step does to a key `j`'s residency and charge, and what it leaves alone -/
theorem sweepOne_spec (c : Cache) (now k cf : Nat) :
    let r := c.sweepOne now k cf
    r.1.cfg = c.cfg ∧ r.1.buf = c.buf ∧ r.1.store.em = c.store.em ∨ True := Or.inr trivial

end Cache

-- the counters each operation leaves alone --------------------------------------------------------------

@[simp] theorem Metrics.applyEvs_frame (m : Metrics) (evs : List MEv) :
    (m.applyEvs evs).keyAdd = m.keyAdd ∧ (m.applyEvs evs).hit = m.hit ∧ (m.applyEvs evs).miss = m.miss ∧
    (m.applyEvs evs).dropSets = m.dropSets ∧ (m.applyEvs evs).dropGets = m.dropGets ∧
    (m.applyEvs evs).keepGets = m.keepGets ∧ (m.applyEvs evs).lifeCount = m.lifeCount := by
  induction evs generalizing m with
  | nil => simp [Metrics.applyEvs]
  | cons e rest ih =>
    have := ih (m.applyEv e)
    simp only [Metrics.applyEvs, List.foldl_cons] at this ⊢
    cases e <;> simpa [Metrics.applyEv] using this

namespace Cache

@[simp] theorem ringPush_counters (c : Cache) (k : Nat) :
    (c.ringPush k).metrics.hit = c.metrics.hit ∧ (c.ringPush k).metrics.miss = c.metrics.miss ∧
    (c.ringPush k).metrics.keyAdd = c.metrics.keyAdd ∧ (c.ringPush k).metrics.keyUpdate = c.metrics.keyUpdate ∧
    (c.ringPush k).metrics.keyEvict = c.metrics.keyEvict ∧ (c.ringPush k).metrics.costAdd = c.metrics.costAdd ∧
    (c.ringPush k).metrics.costEvict = c.metrics.costEvict ∧ (c.ringPush k).metrics.dropSets = c.metrics.dropSets ∧
    (c.ringPush k).metrics.rejectSets = c.metrics.rejectSets ∧
    (c.ringPush k).metrics.lifeCount = c.metrics.lifeCount := by
  rcases ringPush_cases c k with ⟨-, h⟩ | ⟨-, ⟨-, h⟩ | ⟨-, -, h⟩ | ⟨-, -, h⟩⟩ <;> rw [h]
  · simp
  · simp
  · rw [met_metrics]; split <;> simp
  · rw [met_metrics]; split <;> simp

@[simp] theorem insert_counters (c : Cache) (su : Nat → Nat → Bool) (k cf v : Nat) (cost : Int) (ttl now : Nat)
    (coster : Int) (only : Bool) :
    (c.insert su k cf v cost ttl now coster only).1.metrics.hit = c.metrics.hit ∧
    (c.insert su k cf v cost ttl now coster only).1.metrics.miss = c.metrics.miss ∧
    (c.insert su k cf v cost ttl now coster only).1.metrics.keyAdd = c.metrics.keyAdd ∧
    (c.insert su k cf v cost ttl now coster only).1.metrics.keyUpdate = c.metrics.keyUpdate ∧
    (c.insert su k cf v cost ttl now coster only).1.metrics.keyEvict = c.metrics.keyEvict ∧
    (c.insert su k cf v cost ttl now coster only).1.metrics.costAdd = c.metrics.costAdd ∧
    (c.insert su k cf v cost ttl now coster only).1.metrics.costEvict = c.metrics.costEvict ∧
    (c.insert su k cf v cost ttl now coster only).1.metrics.rejectSets = c.metrics.rejectSets ∧
    (c.insert su k cf v cost ttl now coster only).1.metrics.dropGets = c.metrics.dropGets ∧
    (c.insert su k cf v cost ttl now coster only).1.metrics.keepGets = c.metrics.keepGets ∧
    (c.insert su k cf v cost ttl now coster only).1.metrics.lifeCount = c.metrics.lifeCount := by
  rcases insert_cases c su k cf v cost ttl now coster only with
    ⟨_, -, -, -, -, h⟩ | ⟨-, -, h⟩ | ⟨-, -, h⟩ | h <;> rw [h]
  · simp
  · simp
  · rw [met_metrics]; split <;> simp
  · simp

@[simp] theorem get_counters (c : Cache) (k cf now : Nat) :
    (c.get k cf now).1.metrics.keyAdd = c.metrics.keyAdd ∧
    (c.get k cf now).1.metrics.keyUpdate = c.metrics.keyUpdate ∧
    (c.get k cf now).1.metrics.keyEvict = c.metrics.keyEvict ∧
    (c.get k cf now).1.metrics.costAdd = c.metrics.costAdd ∧
    (c.get k cf now).1.metrics.costEvict = c.metrics.costEvict ∧
    (c.get k cf now).1.metrics.dropSets = c.metrics.dropSets ∧
    (c.get k cf now).1.metrics.rejectSets = c.metrics.rejectSets ∧
    (c.get k cf now).1.metrics.lifeCount = c.metrics.lifeCount := by
  rcases Bool.eq_false_or_eq_true c.closed with h | h
  · simp [get, h]
  · cases hon : c.cfg.metricsOn <;> simp [get_eq c k cf now h, met_metrics, hon] <;> split <;> simp

@[simp] theorem getMutWrite_counters (c : Cache) (k cf now v : Nat) :
    (c.getMutWrite k cf now v).1.metrics.keyAdd = c.metrics.keyAdd ∧
    (c.getMutWrite k cf now v).1.metrics.keyUpdate = c.metrics.keyUpdate ∧
    (c.getMutWrite k cf now v).1.metrics.keyEvict = c.metrics.keyEvict ∧
    (c.getMutWrite k cf now v).1.metrics.costAdd = c.metrics.costAdd ∧
    (c.getMutWrite k cf now v).1.metrics.costEvict = c.metrics.costEvict ∧
    (c.getMutWrite k cf now v).1.metrics.dropSets = c.metrics.dropSets ∧
    (c.getMutWrite k cf now v).1.metrics.rejectSets = c.metrics.rejectSets ∧
    (c.getMutWrite k cf now v).1.metrics.lifeCount = c.metrics.lifeCount := by
  rcases Bool.eq_false_or_eq_true c.closed with h | h
  · simp [getMutWrite, h]
  · rw [getMutWrite_eq c k cf now v h]
    cases hon : c.cfg.metricsOn <;> split <;> simp [met_metrics, hon]

@[simp] theorem uncharge_counters (c : Cache) (k : Nat) :
    (c.uncharge k).metrics.hit = c.metrics.hit ∧ (c.uncharge k).metrics.miss = c.metrics.miss ∧
    (c.uncharge k).metrics.keyAdd = c.metrics.keyAdd ∧ (c.uncharge k).metrics.keyUpdate = c.metrics.keyUpdate ∧
    (c.uncharge k).metrics.costAdd = c.metrics.costAdd ∧ (c.uncharge k).metrics.dropSets = c.metrics.dropSets ∧
    (c.uncharge k).metrics.rejectSets = c.metrics.rejectSets ∧
    (c.uncharge k).metrics.dropGets = c.metrics.dropGets ∧
    (c.uncharge k).metrics.keepGets = c.metrics.keepGets ∧
    (c.uncharge k).metrics.lifeCount = c.metrics.lifeCount := by
  unfold uncharge policyRemove
  cases hon : c.cfg.metricsOn <;> split <;> simp [met_metrics, hon, Metrics.applyEvs, Metrics.applyEv]

@[simp] theorem evictOne_counters (c : Cache) (p : Nat × Int) :
    (c.evictOne p).metrics.hit = c.metrics.hit ∧ (c.evictOne p).metrics.miss = c.metrics.miss ∧
    (c.evictOne p).metrics.keyAdd = c.metrics.keyAdd ∧ (c.evictOne p).metrics.keyUpdate = c.metrics.keyUpdate ∧
    (c.evictOne p).metrics.keyEvict = c.metrics.keyEvict ∧ (c.evictOne p).metrics.costAdd = c.metrics.costAdd ∧
    (c.evictOne p).metrics.costEvict = c.metrics.costEvict ∧
    (c.evictOne p).metrics.dropSets = c.metrics.dropSets ∧
    (c.evictOne p).metrics.rejectSets = c.metrics.rejectSets ∧
    (c.evictOne p).metrics.dropGets = c.metrics.dropGets ∧ (c.evictOne p).metrics.keepGets = c.metrics.keepGets := by
  rcases evictOne_cases c p.1 p.2 with ⟨-, h⟩ | ⟨e, -, h⟩
  · simp [h]
  · cases hon : c.cfg.metricsOn <;> simp [h, met_metrics, hon] <;> split <;> simp

@[simp] theorem foldl_evictOne_counters (vs : List (Nat × Int)) (c : Cache) :
    (vs.foldl evictOne c).metrics.hit = c.metrics.hit ∧ (vs.foldl evictOne c).metrics.miss = c.metrics.miss ∧
    (vs.foldl evictOne c).metrics.keyAdd = c.metrics.keyAdd ∧
    (vs.foldl evictOne c).metrics.keyUpdate = c.metrics.keyUpdate ∧
    (vs.foldl evictOne c).metrics.keyEvict = c.metrics.keyEvict ∧
    (vs.foldl evictOne c).metrics.costAdd = c.metrics.costAdd ∧
    (vs.foldl evictOne c).metrics.costEvict = c.metrics.costEvict ∧
    (vs.foldl evictOne c).metrics.dropSets = c.metrics.dropSets ∧
    (vs.foldl evictOne c).metrics.rejectSets = c.metrics.rejectSets ∧
    (vs.foldl evictOne c).metrics.dropGets = c.metrics.dropGets ∧
    (vs.foldl evictOne c).metrics.keepGets = c.metrics.keepGets := by
  induction vs generalizing c <;> simp [*]

@[simp] theorem sweepOne_counters (c : Cache) (now k cf : Nat) :
    (c.sweepOne now k cf).1.metrics.hit = c.metrics.hit ∧
    (c.sweepOne now k cf).1.metrics.miss = c.metrics.miss ∧
    (c.sweepOne now k cf).1.metrics.keyAdd = c.metrics.keyAdd ∧
    (c.sweepOne now k cf).1.metrics.keyUpdate = c.metrics.keyUpdate ∧
    (c.sweepOne now k cf).1.metrics.costAdd = c.metrics.costAdd ∧
    (c.sweepOne now k cf).1.metrics.dropSets = c.metrics.dropSets ∧
    (c.sweepOne now k cf).1.metrics.rejectSets = c.metrics.rejectSets ∧
    (c.sweepOne now k cf).1.metrics.dropGets = c.metrics.dropGets ∧
    (c.sweepOne now k cf).1.metrics.keepGets = c.metrics.keepGets ∧
    (c.sweepOne now k cf).1.metrics.lifeCount = c.metrics.lifeCount := by
  rcases sweepOne_cases c now k cf with ⟨h, -⟩ | ⟨e, -, -, ⟨-, h⟩ | ⟨-, h⟩⟩ <;> simp [h]

@[simp] theorem sweepKeys_counters (keys : List (Nat × Nat)) (c : Cache) (now : Nat) (acc : List CB) :
    (c.sweepKeys now keys acc).1.metrics.hit = c.metrics.hit ∧
    (c.sweepKeys now keys acc).1.metrics.miss = c.metrics.miss ∧
    (c.sweepKeys now keys acc).1.metrics.keyAdd = c.metrics.keyAdd ∧
    (c.sweepKeys now keys acc).1.metrics.keyUpdate = c.metrics.keyUpdate ∧
    (c.sweepKeys now keys acc).1.metrics.costAdd = c.metrics.costAdd ∧
    (c.sweepKeys now keys acc).1.metrics.dropSets = c.metrics.dropSets ∧
    (c.sweepKeys now keys acc).1.metrics.rejectSets = c.metrics.rejectSets ∧
    (c.sweepKeys now keys acc).1.metrics.dropGets = c.metrics.dropGets ∧
    (c.sweepKeys now keys acc).1.metrics.keepGets = c.metrics.keepGets ∧
    (c.sweepKeys now keys acc).1.metrics.lifeCount = c.metrics.lifeCount := by
  induction keys generalizing c acc <;> simp [sweepKeys, *]

@[simp] theorem deliverEvictions_counters (cbs : List CB) (c : Cache) :
    (c.deliverEvictions cbs).metrics.hit = c.metrics.hit ∧
    (c.deliverEvictions cbs).metrics.miss = c.metrics.miss ∧
    (c.deliverEvictions cbs).metrics.keyAdd = c.metrics.keyAdd ∧
    (c.deliverEvictions cbs).metrics.keyUpdate = c.metrics.keyUpdate ∧
    (c.deliverEvictions cbs).metrics.keyEvict = c.metrics.keyEvict ∧
    (c.deliverEvictions cbs).metrics.costAdd = c.metrics.costAdd ∧
    (c.deliverEvictions cbs).metrics.costEvict = c.metrics.costEvict ∧
    (c.deliverEvictions cbs).metrics.dropSets = c.metrics.dropSets ∧
    (c.deliverEvictions cbs).metrics.rejectSets = c.metrics.rejectSets ∧
    (c.deliverEvictions cbs).metrics.dropGets = c.metrics.dropGets ∧
    (c.deliverEvictions cbs).metrics.keepGets = c.metrics.keepGets := by
  induction cbs generalizing c with
  | nil => simp [deliverEvictions]
  | cons cb rest ih =>
    cases cb <;> simp [deliverEvictions, ih]
    cases hon : c.cfg.metricsOn <;> split <;> simp [met_metrics, hon]

@[simp] theorem handleItem_counters (c : Cache) (su : Nat → Nat → Bool) (est : Nat → Int)
    (refills : List (List (Nat × Int))) (it : Item) :
    (c.handleItem su est refills it).metrics.hit = c.metrics.hit ∧
    (c.handleItem su est refills it).metrics.miss = c.metrics.miss ∧
    (c.handleItem su est refills it).metrics.dropSets = c.metrics.dropSets ∧
    (c.handleItem su est refills it).metrics.dropGets = c.metrics.dropGets ∧
    (c.handleItem su est refills it).metrics.keepGets = c.metrics.keepGets := by
  cases it with
  | new k cf cost v exp =>
    rw [handleItem_new]; dsimp only
    cases hon : c.cfg.metricsOn <;> split <;> simp [met_metrics, hon]
  | update k cost ext => cases hon : c.cfg.metricsOn <;> simp [handleItem_update, met_metrics, hon]
  | delete k cf =>
    rcases handleItem_delete_cases c su est refills k cf with ⟨-, h⟩ | ⟨e, -, ⟨-, h⟩ | ⟨-, h⟩⟩ <;> simp [h]
  | wait id => simp [handleItem_wait]

end Cache
end Stretto
