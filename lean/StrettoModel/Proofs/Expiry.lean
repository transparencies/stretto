import StrettoModel.Proofs.Step
/-!
# The expiry index is complete, and what a sweep changes

`EmInv`: every resident entry with a TTL is filed, under its own key, in the bucket of its deadline.
This is what makes the periodic sweep find every expired entry (C05, completeness half).
`Cache.Swept` / `Cache.sweepKeys_listed`: the sweep over the keys of the due buckets.
-/

namespace Stretto

/-- key `k` is filed in bucket `b` -/
def filed (m : Buckets) (b k : Nat) : Prop := ∃ bk cf, m.get b = some bk ∧ bk.get k = some cf

namespace Buckets

/-- `filed` as a computation on the bucket's contents -/
theorem filed_iff (m : Buckets) (b j : Nat) : filed m b j ↔ (((m.get b).getD []).get j).isSome = true := by
  unfold filed; cases m.get b <;> simp [Option.isSome_iff_exists]

theorem filed_bucketPut (m : Buckets) (b k c b' j : Nat) :
    filed (bucketPut m b k c) b' j ↔ (b' = b ∧ j = k) ∨ filed m b' j := by
  simp only [filed_iff, bucketPut, KMap.get_set]
  split
  · subst_vars; rw [Option.getD_some, KMap.get_set]; split <;> simp [*]
  · simp [*]

theorem filed_tryRemove (m : Buckets) (k : Nat) (t : Time) (b j : Nat) :
    filed (m.tryRemove k t) b j ↔ filed m b j ∧ ¬ (b = t.storageBucket ∧ j = k) := by
  simp only [filed_iff, tryRemove]
  by_cases hb : b = t.storageBucket
  · subst hb
    cases hg : m.get t.storageBucket with
    | none => simp [hg]
    | some bk => by_cases hj : j = k <;> simp [hj]
  · split <;> simp [hb]

theorem filed_tryInsert (m : Buckets) (k c : Nat) (t : Time) (b j : Nat) :
    filed (m.tryInsert k c t) b j ↔ (t.isZero = false ∧ b = t.storageBucket ∧ j = k) ∨ filed m b j := by
  unfold tryInsert
  split <;> simp [filed_bucketPut, *]

/-- `try_update`: out of the old bucket, into the new one — unless there is nothing to do -/
theorem tryUpdate_eq (m : Buckets) (k c : Nat) (old new : Time) :
    m.tryUpdate k c old new =
      if old.isZero && new.isZero then m
      else if !old.isZero && !new.isZero && old.storageBucket == new.storageBucket then m
      else
        let m1 := if old.isZero then m else m.tryRemove k old
        if new.isZero then m1 else bucketPut m1 new.storageBucket k c := rfl

/-- `try_update` for key `k` moves no other key -/
theorem filed_tryUpdate_other (m : Buckets) (k c : Nat) (old new : Time) (b j : Nat) (hj : j ≠ k) :
    filed (m.tryUpdate k c old new) b j ↔ filed m b j := by
  -- `filed · b j` of every branch is `filed m b j`
  simp only [tryUpdate_eq, apply_ite (filed · b j), filed_bucketPut, filed_tryRemove, hj, and_false, false_or,
    not_false_eq_true, and_true, ite_self]

/-- after `try_update` the key is filed in the bucket of its new deadline, given it was filed in the
bucket of the old one (`try_update` does nothing when the two buckets coincide) -/
theorem filed_tryUpdate_self (m : Buckets) (k c : Nat) (old new : Time) (hz : new.isZero = false)
    (hold : old.isZero = false → filed m old.storageBucket k) :
    filed (m.tryUpdate k c old new) new.storageBucket k := by
  simp only [tryUpdate_eq, hz, Bool.and_false, Bool.false_eq_true, ↓reduceIte, Bool.not_false, Bool.and_true]
  split
  · rename_i hsame
    simp only [Bool.and_eq_true, Bool.not_eq_true', beq_iff_eq] at hsame
    exact hsame.2 ▸ hold hsame.1
  · exact (filed_bucketPut ..).mpr (Or.inl ⟨rfl, rfl⟩)

theorem filed_tryCleanup (m : Buckets) (now b j : Nat) :
    filed (m.tryCleanup now).1 b j ↔ filed m b j ∧ ¬ b ≤ Time.cleanupBucket now := by
  have := KMap.get_filter_key m (fun x => decide (¬ x ≤ Time.cleanupBucket now)) b
  simp only [filed_iff, tryCleanup, this]
  by_cases hb : b ≤ Time.cleanupBucket now <;> simp [hb]

end Buckets

/-- **every resident entry with a TTL is filed in the bucket of its deadline** -/
def EmInv (s : Store) : Prop :=
  ∀ k e, s.items.get k = some e → e.exp.isZero = false → filed s.em e.exp.storageBucket k

namespace EmInv
open Buckets

/-- an operation on key `k` keeps the invariant if it files what it leaves under `k`, and keeps the
entries and the filings of the other keys -/
theorem of_key {s s' : Store} (h : EmInv s) (k : Nat)
    (hk : ∀ e, s'.items.get k = some e → e.exp.isZero = false → filed s'.em e.exp.storageBucket k)
    (hi : ∀ j, j ≠ k → s'.items.get j = s.items.get j)
    (hf : ∀ b j, j ≠ k → filed s.em b j → filed s'.em b j) : EmInv s' := by
  intro j e hj hz
  by_cases hjk : j = k
  · exact hjk ▸ hk e (hjk ▸ hj) hz
  · exact hf _ j hjk (h j e (hi j hjk ▸ hj) hz)

theorem insert {s : Store} (h : EmInv s) (k cf : Nat) (e' : Entry) :
    EmInv { items := s.items.set k e', em := s.em.tryInsert k cf e'.exp } := by
  refine h.of_key k (fun e he hz => ?_) (fun j hj => by simp [hj])
    (fun b j _ hf => (filed_tryInsert ..).mpr (Or.inr hf))
  cases (by simpa using he : e' = e)
  exact (filed_tryInsert ..).mpr (Or.inl ⟨hz, rfl, rfl⟩)

theorem update {s : Store} (h : EmInv s) {k : Nat} {e : Entry} (hg : s.items.get k = some e) (cf : Nat)
    (e' : Entry) : EmInv { items := s.items.set k e', em := s.em.tryUpdate k cf e.exp e'.exp } := by
  refine h.of_key k (fun e1 he hz => ?_) (fun j hj => by simp [hj])
    (fun b j hj hf => (filed_tryUpdate_other _ _ _ _ _ _ _ hj).mpr hf)
  cases (by simpa using he : e' = e1)
  exact filed_tryUpdate_self _ _ _ _ _ hz (h k e hg)

/-- a write through `get_mut` keeps the deadline -/
theorem write {s : Store} (h : EmInv s) {k : Nat} {e : Entry} (hg : s.items.get k = some e) (e' : Entry)
    (hexp : e'.exp = e.exp) : EmInv { s with items := s.items.set k e' } := by
  refine h.of_key k (fun e1 he hz => ?_) (fun j hj => by simp [hj]) (fun b j _ hf => hf)
  cases (by simpa using he : e' = e1)
  exact hexp ▸ h k e hg (hexp ▸ hz)

theorem erase {s : Store} (h : EmInv s) (k : Nat) (t : Time) :
    EmInv { items := s.items.erase k, em := if t.isZero then s.em else s.em.tryRemove k t } := by
  refine h.of_key k (fun e he => by simp at he) (fun j hj => by simp [hj]) (fun b j hj hf => ?_)
  split
  · exact hf
  · exact (filed_tryRemove ..).mpr ⟨hf, fun hh => hj hh.2⟩

end EmInv

theorem Store.tryInsert_emInv (s : Store) (su : Nat → Nat → Bool) (k v cf : Nat) (t : Time) (h : EmInv s) :
    EmInv (s.tryInsert su k v cf t) := by
  rcases tryInsert_cases s su k v cf t with ⟨em, hr, ⟨-, rfl⟩ | ⟨e, hg, -, -, rfl⟩⟩ | ⟨hr, -⟩ <;> rw [hr]
  · exact h.insert k cf _
  · exact h.update hg cf _
  · exact h

theorem Store.tryRemove_emInv (s : Store) (k cf : Nat) (h : EmInv s) : EmInv (s.tryRemove k cf).1 := by
  rcases tryRemove_cases s k cf with ⟨e, -, -, hr⟩ | ⟨hr, -⟩ <;> rw [hr]
  · exact h.erase k _
  · exact h

namespace Cache

/-- what a sweep at `now` has done on the way from `(c, acc)` to `(c', acc')`. Entries: only expired
ones have gone, each with its charge, and reported to `on_evict` with its own conflict hash and value.
Charges have only been released. Filings have only been dropped for keys that are gone. The callbacks
collected before stay. -/
structure Swept (now : Nat) (c : Cache) (acc : List CB) (c' : Cache) (acc' : List CB) : Prop where
  entry : ∀ j, c'.store.items.get j = c.store.items.get j ∨
    c'.store.items.get j = none ∧ c'.lfu.costs.get j = none ∧ ∃ e cost, c.store.items.get j = some e ∧
      0 < e.exp.d ∧ e.exp.created + e.exp.d ≤ now ∧ CB.evict j e.conflict e.val cost ∈ acc'
  charge : ∀ j, c'.lfu.costs.get j = c.lfu.costs.get j ∨ c'.lfu.costs.get j = none
  filing : ∀ b j, filed c.store.em b j → filed c'.store.em b j ∨ c'.store.items.get j = none
  acc : ∀ cb ∈ acc, cb ∈ acc'

namespace Swept
variable {now : Nat} {c c' c'' : Cache} {acc acc' acc'' : List CB}

theorem gone (h : Swept now c acc c' acc') {j : Nat} (hj : c.store.items.get j = none) :
    c'.store.items.get j = none := by
  rcases h.entry j with h1 | ⟨h1, -⟩
  · exact h1.trans hj
  · exact h1

/-- the sweep puts nothing in -/
theorem of_some (h : Swept now c acc c' acc') {j : Nat} {e : Entry} (hj : c'.store.items.get j = some e) :
    c.store.items.get j = some e := by
  rcases h.entry j with h1 | ⟨h1, -⟩ <;> rw [h1] at hj
  · exact hj
  · cases hj

theorem released (h : Swept now c acc c' acc') {j : Nat} (hj : c.lfu.costs.get j = none) :
    c'.lfu.costs.get j = none := by
  rcases h.charge j with h1 | h1
  · exact h1.trans hj
  · exact h1

theorem refl (now : Nat) (c : Cache) (acc : List CB) : Swept now c acc c acc :=
  ⟨fun _ => Or.inl rfl, fun _ => Or.inl rfl, fun _ _ => Or.inl, fun _ => id⟩

theorem trans (h1 : Swept now c acc c' acc') (h2 : Swept now c' acc' c'' acc'') : Swept now c acc c'' acc'' := by
  refine ⟨fun j => ?_, fun j => ?_, fun b j hf => ?_, fun cb hcb => h2.acc cb (h1.acc cb hcb)⟩
  · rcases h2.entry j with h | ⟨h, hc, e, cost, he, hd, hx, hm⟩
    · rcases h1.entry j with h' | ⟨h', hc, e, cost, he, hd, hx, hm⟩
      · exact Or.inl (h.trans h')
      · exact Or.inr ⟨h.trans h', h2.released hc, e, cost, he, hd, hx, h2.acc _ hm⟩
    · exact Or.inr ⟨h, hc, e, cost, h1.of_some he, hd, hx, hm⟩
  · rcases h2.charge j with h | h
    · rcases h1.charge j with h' | h'
      · exact Or.inl (h.trans h')
      · exact Or.inr (h.trans h')
    · exact Or.inr h
  · rcases h1.filing b j hf with h | h
    · exact h2.filing b j h
    · exact Or.inr (h2.gone h)

end Swept

theorem sweepOne_swept (c : Cache) (now k cf : Nat) (acc : List CB) :
    Swept now c acc (c.sweepOne now k cf).1 ((c.sweepOne now k cf).2.toList ++ acc) := by
  have hch : ∀ j, (c.uncharge k).lfu.costs.get j = c.lfu.costs.get j ∨ (c.uncharge k).lfu.costs.get j = none := by
    intro j
    simp only [uncharge_frame, policyRemove_get]; split
    · exact Or.inr rfl
    · exact Or.inl rfl
  rcases sweepOne_cases c now k cf with ⟨hr, -⟩ | ⟨e, he, hdue, ⟨-, hr⟩ | ⟨-, hr⟩⟩ <;> rw [hr]
  · exact .refl ..
  · exact ⟨fun _ => Or.inl (by simp), hch, fun _ _ hf => Or.inl (by simpa using hf), fun _ => id⟩
  · rw [Time.ttl_elapsed_iff] at hdue
    refine ⟨fun j => ?_, hch, fun b j hf => ?_, fun cb hcb => List.mem_cons_of_mem _ hcb⟩
    · by_cases hj : j = k
      · subst hj
        exact Or.inr ⟨by simp, by simp [policyRemove_get], e, _, he, hdue.1, hdue.2, List.mem_cons_self⟩
      · exact Or.inl (by simp [hj])
    · by_cases hj : j = k
      · exact Or.inr (by simp [hj])
      · refine Or.inl ?_
        dsimp only; split
        · exact hf
        · exact (Buckets.filed_tryRemove ..).mpr ⟨hf, fun hh => hj hh.2⟩

theorem sweepKeys_swept (keys : List (Nat × Nat)) (c : Cache) (now : Nat) (acc : List CB) :
    Swept now c acc (c.sweepKeys now keys acc).1 (c.sweepKeys now keys acc).2 :=
  sweepKeys_induction (P := Swept now c acc) keys c acc (.refl ..)
    fun c1 acc1 h p _ => h.trans (sweepOne_swept c1 now p.1 p.2 acc1)

theorem sweepKeys_get_of_some (keys : List (Nat × Nat)) (c : Cache) (now : Nat) (acc : List CB) (j : Nat) (e : Entry)
    (h : (c.sweepKeys now keys acc).1.store.items.get j = some e) : c.store.items.get j = some e :=
  (sweepKeys_swept keys c now acc).of_some h

/-- a listed key whose entry has expired: its charge is released, and the entry is gone if the conflict
hash listed with it passes the store's check -/
theorem sweepKeys_listed (keys : List (Nat × Nat)) (c : Cache) (now : Nat) (acc : List CB) {k cf : Nat}
    {e : Entry} (hl : (k, cf) ∈ keys) (he : c.store.items.get k = some e) (hd : 0 < e.exp.d)
    (hx : e.exp.created + e.exp.d ≤ now) :
    (c.sweepKeys now keys acc).1.lfu.costs.get k = none ∧
    (Store.conflictOk cf e = true → (c.sweepKeys now keys acc).1.store.items.get k = none) := by
  induction keys generalizing c acc with
  | nil => cases hl
  | cons p rest ih =>
    rw [sweepKeys]
    have hrest := fun acc => sweepKeys_swept rest (c.sweepOne now p.1 p.2).1 now acc
    rcases List.mem_cons.mp hl with rfl | hl
    · -- the visit of `(k, cf)` itself releases the charge, and removes the entry if `cf` passes
      rcases sweepOne_cases c now k cf with ⟨-, hno⟩ | ⟨e', he', -, ⟨hc, hr⟩ | ⟨hc, hr⟩⟩
      · have := hno e he
        rw [Bool.eq_false_iff, Ne, Time.ttl_elapsed_iff] at this
        exact absurd ⟨hd, hx⟩ this
      · cases he.symm.trans he'
        exact ⟨(hrest _).released (by simp [hr, policyRemove_get]), fun hcf => by rw [hc] at hcf; cases hcf⟩
      · exact ⟨(hrest _).released (by simp [hr, policyRemove_get]), fun _ => (hrest _).gone (by simp [hr])⟩
    · -- an earlier visit leaves the entry for the rest of the list, or takes it with its charge
      rcases (sweepOne_swept c now p.1 p.2 acc).entry k with h | ⟨hg, hc, -⟩
      · exact ih _ _ hl (h.trans he)
      · exact ⟨(hrest _).released hc, fun _ => (hrest _).gone hg⟩

end Cache
end Stretto
