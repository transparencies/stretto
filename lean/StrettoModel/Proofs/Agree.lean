import StrettoModel.Proofs.Step
/-!
Invariant behind C06: resident ⊆ charged, and a charge without a resident entry belongs to a key
with a `Delete` item still on its way to the processor.

The invariant is a statement about each index on its own (`Inv06.of_keys`); it is kept operation by
operation, each read off its closed form in `Proofs/Cache.lean`.
-/
namespace Stretto

-- the invariant ------------------------------------------------------------------------------------

def pendingDelete (c : Cache) (k : Nat) : Prop := ∃ cf, Item.delete k cf ∈ c.buf ++ c.pendingSends

structure Inv06 (c : Cache) : Prop where
  storeWF : c.store.items.WF
  lfuInv : c.lfu.Inv
  resident_charged : ∀ k, (c.store.items.get k).isSome = true → (c.lfu.costs.get k).isSome = true
  charged_resident : ∀ k, (c.lfu.costs.get k).isSome = true →
    (c.store.items.get k).isSome = true ∨ pendingDelete c k

/-- the invariant is only claimed while the processor is alive -/
def Good06 (c : Cache) : Prop := c.procExited = true ∨ Inv06 c

/-- guard on the oracle input of a tick: the conflict hashes filed in the due buckets pass the
store's check for the entries they refer to (checked at run time by the driver) -/
def TickOk (c : Cache) (order : List (Nat × Nat)) : Prop :=
  ∀ k cf e, (k, cf) ∈ order → c.store.items.get k = some e → Store.conflictOk cf e = true

/-- guard on the oracle inputs of an admission: no sampled victim is the incoming key itself
(sample entries are charged keys, the incoming key is not charged; checked by the driver) -/
def VictimsOk (c : Cache) (est : Nat → Int) (refills : List (List (Nat × Int))) : Item → Prop
  | .new k _ cost _ _ => ∀ vs, (policyAdd c.lfu est k (c.internalCost cost) refills).victims = some vs →
      ∀ v ∈ vs, v.1 ≠ k
  | _ => True

namespace Inv06
variable {c c' : Cache}

/-- The invariant speaks of each index on its own. It passes from `c` to `c'` when every index either keeps
its residency, its being charged and its pending `Delete`s, or satisfies the two implications in `c'` outright. -/
theorem of_keys (h : Inv06 c) (hwf : c'.store.items.WF) (hli : c'.lfu.Inv)
    (hk : ∀ j,
      ((c'.store.items.get j).isSome = (c.store.items.get j).isSome ∧
       (c'.lfu.costs.get j).isSome = (c.lfu.costs.get j).isSome ∧ (pendingDelete c j → pendingDelete c' j)) ∨
      (((c'.store.items.get j).isSome = true → (c'.lfu.costs.get j).isSome = true) ∧
       ((c'.lfu.costs.get j).isSome = true → (c'.store.items.get j).isSome = true ∨ pendingDelete c' j))) :
    Inv06 c' := by
  refine ⟨hwf, hli, fun j => ?_, fun j => ?_⟩ <;> rcases hk j with ⟨hs, hl, hp⟩ | ⟨h1, h2⟩
  · rw [hs, hl]; exact h.resident_charged j
  · exact h1
  · rw [hs, hl]; exact fun hj => (h.charged_resident j hj).imp_right hp
  · exact h2

theorem same (h : Inv06 c) (hwf : c'.store.items.WF) (hli : c'.lfu.Inv)
    (hs : ∀ j, (c'.store.items.get j).isSome = (c.store.items.get j).isSome)
    (hl : ∀ j, (c'.lfu.costs.get j).isSome = (c.lfu.costs.get j).isSome)
    (hp : ∀ j cf, Item.delete j cf ∈ c.buf ++ c.pendingSends → Item.delete j cf ∈ c'.buf ++ c'.pendingSends) :
    Inv06 c' :=
  h.of_keys hwf hli fun j => .inl ⟨hs j, hl j, fun ⟨cf, hm⟩ => ⟨cf, hp j cf hm⟩⟩

theorem frame (h : Inv06 c) (hs : c'.store.items = c.store.items) (hl : c'.lfu = c.lfu)
    (hp : ∀ j cf, Item.delete j cf ∈ c.buf ++ c.pendingSends → Item.delete j cf ∈ c'.buf ++ c'.pendingSends) :
    Inv06 c' :=
  h.same (hs ▸ h.storeWF) (hl ▸ h.lfuInv) (fun _ => by rw [hs]) (fun _ => by rw [hl]) hp

/-- index `k` leaves store and policy together; its own pending `Delete`s need not survive that -/
theorem drop (h : Inv06 c) (k : Nat) (hwf : c'.store.items.WF)
    (hs : ∀ j, j ≠ k → c'.store.items.get j = c.store.items.get j) (hk : c'.store.items.get k = none)
    (hl : c'.lfu = (policyRemove c.lfu k).1)
    (hp : ∀ j cf, j ≠ k → Item.delete j cf ∈ c.buf ++ c.pendingSends →
      Item.delete j cf ∈ c'.buf ++ c'.pendingSends) : Inv06 c' := by
  refine h.of_keys hwf (hl ▸ policyRemove_inv _ _ h.lfuInv) fun j => ?_
  by_cases hj : j = k
  · subst hj; exact .inr ⟨by simp [hk], by simp [hl, policyRemove_get]⟩
  · exact .inl ⟨by rw [hs j hj], by simp [hl, policyRemove_get, hj], fun ⟨cf, hm⟩ => ⟨cf, hp j cf hj hm⟩⟩

theorem agree (h : Inv06 c) (k : Nat) (hk : ¬ pendingDelete c k) :
    (c.store.items.get k).isSome = (c.lfu.costs.get k).isSome :=
  Bool.eq_iff_iff.mpr ⟨h.resident_charged k, fun hc => (h.charged_resident k hc).resolve_right hk⟩

end Inv06

open Cache

-- client operations ----------------------------------------------------------------------------

theorem insert_inv06 (c : Cache) (su : Nat → Nat → Bool) (k cf v : Nat) (cost : Int) (ttl now : Nat)
    (coster : Int) (only : Bool) (h : Inv06 c) : Inv06 (c.insert su k cf v cost ttl now coster only).1 := by
  rcases insert_cases c su k cf v cost ttl now coster only with
    ⟨e, -, hg, -, -, hr⟩ | ⟨-, -, hr⟩ | ⟨-, -, hr⟩ | hr <;> rw [hr]
  · refine h.same (KMap.wf_set _ _ _ h.storeWF) h.lfuInv (KMap.isSome_get_set _ _ _ (by simp [hg]))
      (fun _ => rfl) fun _ _ hm => ?_
    dsimp only; split
    · exact mem_snoc_append.mpr (Or.inr hm)
    · exact hm
  · exact h.frame rfl rfl fun _ _ h => mem_snoc_append.mpr (Or.inr h)
  · exact h.frame (by simp) (by simp) (by simp)
  · exact h

theorem getMut_inv06 (c : Cache) (k cf now v : Nat) (h : Inv06 c) : Inv06 (c.getMutWrite k cf now v).1 := by
  rcases Bool.eq_false_or_eq_true c.closed with hcl | hcl
  · simpa [getMutWrite, hcl] using h
  rw [getMutWrite_eq c k cf now v hcl]
  cases hl : c.store.lookup k cf now with
  | none => exact h.frame (by simp) (by simp) (by simp)
  | some e =>
    have hg := (Store.lookup_some c.store k cf now e hl).1
    exact h.same (by simpa using KMap.wf_set _ _ _ h.storeWF) (by simpa using h.lfuInv)
      (by simpa using KMap.isSome_get_set _ _ _ (by simp [hg])) (by simp) (by simp)

theorem remove_inv06 (c : Cache) (k cf : Nat) (h : Inv06 c) : Inv06 (c.remove k cf).1 := by
  rcases Bool.eq_false_or_eq_true c.closed with hcl | hcl
  · simpa [remove, hcl] using h
  -- the entry under `k` may go; wherever the `Delete` is queued, it is on its way
  have key : ∀ c' : Cache, c'.store = (c.store.tryRemove k cf).1 → c'.lfu = c.lfu →
      (∀ x, x ∈ c.buf ++ c.pendingSends → x ∈ c'.buf ++ c'.pendingSends) →
      Item.delete k cf ∈ c'.buf ++ c'.pendingSends → Inv06 c' := by
    intro c' hs hl hp hd
    rcases Store.tryRemove_cases c.store k cf with ⟨e, -, -, hr⟩ | ⟨hr, -⟩ <;> rw [hr] at hs
    · refine h.of_keys (by rw [hs]; exact KMap.wf_erase _ _ h.storeWF) (hl ▸ h.lfuInv) fun j => ?_
      by_cases hj : j = k
      · subst hj; exact .inr ⟨by simp [hs], fun _ => .inr ⟨cf, hd⟩⟩
      · exact .inl ⟨by simp [hs, hj], by rw [hl], fun ⟨cf', hm⟩ => ⟨cf', hp _ hm⟩⟩
    · exact h.same (by rw [hs]; exact h.storeWF) (hl ▸ h.lfuInv) (by simp [hs]) (by simp [hl]) fun _ _ => hp _
  rw [remove_eq c k cf hcl]; dsimp only
  split
  · exact key _ rfl rfl (fun _ h => mem_snoc_append.mpr (Or.inr h)) (by simp)
  · exact key _ rfl rfl (fun _ h => mem_append_snoc.mpr (Or.inr h)) (by simp)

theorem waitEnq_inv06 (c : Cache) (id : Nat) (h : Inv06 c) : Inv06 (c.waitEnq id).1 := by
  unfold waitEnq
  split
  · exact h
  · split
    · exact h.frame rfl rfl fun _ _ h => mem_snoc_append.mpr (Or.inr h)
    · exact h

-- the processor applies an item -------------------------------------------------------------------

theorem handleNew_inv06 (c : Cache) (su : Nat → Nat → Bool) (est : Nat → Int)
    (refills : List (List (Nat × Int))) (k cf : Nat) (cost : Int) (v : Nat) (exp : Time)
    (h : Inv06 c) (hv : VictimsOk c est refills (Item.new k cf cost v exp)) :
    Inv06 (c.handleItem su est refills (Item.new k cf cost v exp)) := by
  have spec := policyAdd_spec c.lfu est k (c.internalCost cost) refills h.lfuInv
  rw [handleItem_new]; dsimp only
  simp only [VictimsOk] at hv
  generalize policyAdd c.lfu est k (c.internalCost cost) refills = R at spec hv ⊢
  have hvk : k ∉ (R.victims.getD []).map (·.1) := fun hm => by
    obtain ⟨p, hp, hpk⟩ := List.mem_map.mp hm
    cases hvic : R.victims with
    | some vs => rw [hvic] at hp; exact hv vs hvic p hp hpk
    | none => rw [hvic] at hp; cases hp
  -- the state after admission or rejection, before the victims leave the store
  generalize hc2 : (if R.added = true then _ else _ : Cache) = c2
  have h2 : c2.lfu = R.lfu ∧ c2.buf = c.buf ∧ c2.pendingSends = c.pendingSends := by
    subst hc2; split <;> simp
  have h2s : c2.store = if R.added = true then c.store.tryInsert su k v cf exp else c.store := by
    subst hc2; split <;> simp
  have hwf2 : c2.store.items.WF := by
    rw [h2s]; split
    · exact Store.tryInsert_wf _ _ _ _ _ _ h.storeWF
    · exact h.storeWF
  refine h.of_keys (foldl_evictOne_wf _ _ hwf2) (by simpa [h2] using spec.inv) fun j => ?_
  have hpd : pendingDelete c j → pendingDelete ((R.victims.getD []).foldl evictOne c2) j := by
    simp [pendingDelete, h2]
  simp only [foldl_evictOne_get, foldl_evictOne_frame, h2]
  by_cases hj : j = k
  · subst hj
    rw [if_neg hvk]
    cases ha : R.added with
    | true =>
      exact .inr ⟨fun _ => by simp [(spec.admitted ha).2.1],
        fun _ => .inl (by simp [h2s, ha, Store.tryInsert_isSome])⟩
    | false => exact .inl ⟨by simp [h2s, ha], spec.isSome_of_not_added ha, hpd⟩
  · -- store and policy lose the same indices: the victims
    have hst : c2.store.items.get j = c.store.items.get j := by
      rw [h2s]; split
      · exact Store.tryInsert_get_ne _ _ _ _ _ _ hj
      · rfl
    rw [hst, spec.get_of_ne hj]
    split
    · exact .inr ⟨nofun, nofun⟩
    · exact .inl ⟨rfl, rfl, hpd⟩

/-- `h` is the invariant before the processor took `it` from the buffer: the item counts as pending there,
and no longer afterwards. -/
theorem handleItem_inv06 (c : Cache) (su : Nat → Nat → Bool) (est : Nat → Int)
    (refills : List (List (Nat × Int))) (it : Item) (h : Inv06 { c with buf := it :: c.buf })
    (hv : VictimsOk c est refills it) : Inv06 (c.handleItem su est refills it) := by
  cases it with
  | wait id => exact h.frame rfl rfl (by simp [handleItem_wait])
  | update k cost ext =>
    rw [handleItem_update]
    exact h.same (by simpa using h.storeWF) (by simpa using Lfu.update_inv c.lfu k _ h.lfuInv) (by simp)
      (by simpa using Lfu.update_isSome c.lfu k _) (by simp)
  | new k cf cost v exp =>
    exact handleNew_inv06 c su est refills k cf cost v exp
      (h.frame rfl rfl (by simp)) hv
  | delete k cf =>
    rcases handleItem_delete_cases c su est refills k cf with ⟨hg, hr⟩ | ⟨e, hg, ⟨-, hr⟩ | ⟨-, hr⟩⟩ <;> rw [hr]
    · exact h.drop k (by simpa using h.storeWF) (by simp) (by simpa using hg) (by simp)
        (fun j cf' hj => by simp [hj])
    · -- the entry under `k` fails the conflict check and stays, charged as it is
      refine h.of_keys h.storeWF h.lfuInv fun j => ?_
      by_cases hj : j = k
      · subst hj
        exact .inr ⟨fun _ => h.resident_charged j (by simp [hg]), fun _ => .inl (by simp [hg])⟩
      · exact .inl ⟨rfl, rfl, fun ⟨cf', hm⟩ => ⟨cf', by simpa [hj] using hm⟩⟩
    · exact h.drop k (KMap.wf_erase _ _ h.storeWF) (fun j hj => by simp [hj]) (by simp) (by simp)
        (fun j cf' hj => by simp [hj])

-- clear and cleanup ticks -------------------------------------------------------------------------

theorem procClear_inv06 {c c' : Cache} (hs : c.procClear = some c') : Inv06 c' := by
  obtain ⟨-, id, rest, -, rfl⟩ := procClear_some hs
  exact ⟨KMap.wf_nil, Lfu.clear_inv _, fun k hk => by simp [Store.empty] at hk,
    fun k hk => by simp [Lfu.clear] at hk⟩

/-- one sweep step keeps the invariant, provided the conflict filed in the bucket passes the
store's check for the entry it refers to -/
theorem sweepOne_inv06 (c : Cache) (now k cf : Nat) (h : Inv06 c)
    (hok : ∀ e, c.store.items.get k = some e → Store.conflictOk cf e = true) :
    Inv06 (c.sweepOne now k cf).1 := by
  rcases sweepOne_cases c now k cf with ⟨hr, -⟩ | ⟨e, hg, -, ⟨hc, -⟩ | ⟨-, hr⟩⟩
  · rw [hr]; exact h
  · -- a failing check would release the charge and leave the entry
    rw [hok e hg] at hc; cases hc
  · rw [hr]
    exact h.drop k (KMap.wf_erase _ _ h.storeWF) (fun j hj => by simp [hj]) (by simp) (by simp) (by simp)

theorem procTick_inv06 {c c' : Cache} {now : Nat} {order : List (Nat × Nat)} (h : Inv06 c)
    (hok : TickOk c order) (hs : c.procTick now order = some c') : Inv06 c' := by
  obtain ⟨-, rfl⟩ := procTick_some hs
  -- entries only leave during the sweep, so the guard stays true of those that remain
  have hsw := sweepKeys_induction (P := fun c' _ => Inv06 c' ∧ TickOk c' order) (now := now) order
    { c with store := { c.store with em := (c.store.em.tryCleanup now).1 } } []
    ⟨h.frame rfl rfl fun _ _ => id, hok⟩ fun c acc ⟨h, hok⟩ p hp =>
      ⟨sweepOne_inv06 c now p.1 p.2 h fun e he => hok p.1 p.2 e hp he, fun k cf e hm he => by
        rcases sweepOne_shrinks c now p.1 p.2 k with hn | hn <;> rw [hn] at he
        · cases he
        · exact hok k cf e hm he⟩
  exact hsw.1.frame (by simp) (by simp) (by simp)

end Stretto
