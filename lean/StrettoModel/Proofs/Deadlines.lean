import StrettoModel.Proofs.Step
/-!
# Provenance with deadlines (for C03)

C03 speaks of "the TTL `d` … since *that insert*": the deadline an entry is judged by must be the one
the write that produced its value carried. This file proves, over every step of every actor, that each
resident entry's `(value, expiry)` pair is that of a write under the same key — an insert's own
`(ttl, now)`, or, for a write through `get_mut`, the deadline of the entry it overwrote.
(Mirrors `Props/C02.lean`'s provenance proof, strengthened by the expiry component.)
-/

namespace Stretto.Deadlines
open Stretto

/-- the writes an action performs in state `c`, each with the deadline it carries: an insert brings
its own `(ttl, now)`; a write through `get_mut` keeps the deadline of the entry it overwrites -/
def writeOfT (c : Cache) : Act → List (Nat × Nat × Time)
  | .insert k _ v _ ttl now _ _ => [(k, v, ⟨ttl, now⟩)]
  | .getMut k cf now v => match c.store.lookup k cf now with
    | some e => [(k, v, e.exp)]
    | none => []
  | _ => []

/-- provenance with deadlines: every resident entry carries a value written under that very key *together
with the deadline that write carried*, and so does every insert on its way to the store -/
structure ProvT (K : Nat → Bool) (W : List (Nat × Nat × Time)) (c : Cache) : Prop where
  resident : ∀ k e, K k = true → c.store.items.get k = some e → (k, e.val, e.exp) ∈ W
  buffered : ∀ k cf cost v exp, K k = true → Item.new k cf cost v exp ∈ c.buf ++ c.pendingSends → (k, v, exp) ∈ W

/-- **provenance is preserved by every step** (the action's own writes join the set) -/
theorem step_provT (su : Nat → Nat → Bool) (K : Nat → Bool) (W : List (Nat × Nat × Time)) (c c' : Cache) (a : Act)
    (hs : c.step su a = some c') (h : ProvT K W c) : ProvT K (W ++ writeOfT c a) c' := by
  refine ⟨fun k e hK he => ?_, fun k cf cost v exp hK hm => ?_⟩
  · have hk := step_entry hs k
    generalize c'.store.items.get k = x at he hk
    cases hk with
    | same => exact List.mem_append_left _ (h.resident k e hK he)
    | gone => cases he
    | update => cases he; simp [writeOfT]
    | write hl => cases he; simp [writeOfT, hl]
    | admit hb =>
      cases he
      exact List.mem_append_left _ (h.buffered k _ _ _ _ hK (List.mem_append_left _ (hb ▸ List.mem_cons_self)))
  · rcases step_inflight hs hm with hm | hs
    · exact List.mem_append_left _ (h.buffered k cf cost v exp hK hm)
    · cases hs; simp [writeOfT]

/-- the writes (with their deadlines) of a whole action sequence executed from `c` -/
def writesExec (su : Nat → Nat → Bool) : Cache → List Act → List (Nat × Nat × Time)
  | _, [] => []
  | c, a :: rest => writeOfT c a ++ writesExec su ((c.step su a).getD c) rest

theorem exec_provT (su : Nat → Nat → Bool) (K : Nat → Bool) (acts : List Act) :
    ∀ (W : List (Nat × Nat × Time)) (c : Cache), ProvT K W c →
      ProvT K (W ++ writesExec su c acts) (Cache.run su c acts) := fun W c h =>
  Cache.run_ghost_induction (I := fun c W => ProvT K W c) (ghost := fun c W a => W ++ writeOfT c a)
    (G := fun c W acts => W ++ writesExec su c acts) (fun _ _ => by simp [writesExec])
    (fun _ _ _ _ => by simp [writesExec, List.append_assoc]) (fun c W a c' h hs => step_provT su K W c c' a hs h)
    (fun c W a h _ => ⟨fun k e hK he => List.mem_append_left _ (h.resident k e hK he),
      fun k cf cost v exp hK hm => List.mem_append_left _ (h.buffered k cf cost v exp hK hm)⟩) acts c W h

end Stretto.Deadlines
