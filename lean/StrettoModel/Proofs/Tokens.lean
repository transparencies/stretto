import StrettoModel.Proofs.Cache
/-!
# Where a value is: resident, on its way to the store, or handed to a callback

`tok w c` counts the places value `w` occupies in state `c`. Conservation (C08) is stated on it.
-/
namespace Stretto

-- ---------------------------------------------------------------------------------------------------

/-- the resident values -/
def vals (m : KMap Entry) : List Nat := m.map (·.2.val)

/-- the values carried by buffered `New` items -/
def newVals : List Item → List Nat
  | [] => []
  | .new _ _ _ v _ :: r => v :: newVals r
  | .update .. :: r => newVals r
  | .delete .. :: r => newVals r
  | .wait _ :: r => newVals r

/-- the values handed to callbacks so far -/
def cbVals (cbs : List CB) : List Nat := cbs.map CB.val

/-- the number of places value `w` occupies -/
def tok (w : Nat) (c : Cache) : Nat :=
  (vals c.store.items).count w + (newVals (c.buf ++ c.pendingSends)).count w + (cbVals c.cbs).count w

theorem newVals_append (a b : List Item) : newVals (a ++ b) = newVals a ++ newVals b := by
  induction a with
  | nil => rfl
  | cons x xs ih => cases x <;> simp [newVals, ih]

/-- indicator -/
def ind (p : Bool) : Nat := if p then 1 else 0

@[simp] theorem ind_false : ind false = 0 := rfl
@[simp] theorem ind_true : ind true = 1 := rfl
@[simp] theorem ind_false_and (b : Bool) : ind (false && b) = 0 := rfl

theorem count_cons_ind (a : Nat) (l : List Nat) (w : Nat) : (a :: l).count w = l.count w + ind (a == w) :=
  List.count_cons

theorem KMap.count_vals_set (m : KMap Entry) (k : Nat) (e : Entry) (w : Nat) :
    (vals (m.set k e)).count w = (vals (m.erase k)).count w + ind (e.val == w) :=
  List.count_cons

theorem KMap.count_vals_erase {m : KMap Entry} (hwf : m.WF) {k : Nat} {e : Entry} (hg : m.get k = some e)
    (w : Nat) : (vals m).count w = (vals (m.erase k)).count w + ind (e.val == w) := by
  rw [vals, ((KMap.perm_erase hwf hg).map _).count_eq]; exact count_cons_ind ..

/- `simp +arith` turns `tok w` of a state written out into a sum of counts over the old state's lists and
of indicators, and compares the sums; `count_vals_erase` is given where an entry leaves the store. -/
attribute [local simp] tok newVals newVals_append cbVals CB.val List.count_append count_cons_ind KMap.count_vals_set

namespace Cache

theorem admitPending_tok (c : Cache) (w : Nat) : tok w c.admitPending = tok w c := by
  rcases admitPending_cases c with h | ⟨it, rest, hp, -, h⟩ <;> rw [h]
  simp [hp]

theorem evictOne_tok (c : Cache) (p : Nat × Int) (hwf : c.store.items.WF) (w : Nat) :
    tok w (c.evictOne p) = tok w c ∧ (c.evictOne p).store.items.WF := by
  obtain ⟨vk, vc⟩ := p
  rcases evictOne_cases c vk vc with ⟨-, h⟩ | ⟨e, hg, h⟩ <;> rw [h]
  · exact ⟨rfl, hwf⟩
  · exact ⟨by simp +arith [KMap.count_vals_erase hwf hg], by simpa using KMap.wf_erase _ vk hwf⟩

/-- one key of the sweep: what leaves the store joins the callbacks collected -/
theorem sweepOne_tok (c : Cache) (now k cf : Nat) (acc : List CB) (hwf : c.store.items.WF) (w : Nat) :
    tok w (c.sweepOne now k cf).1 + (cbVals ((c.sweepOne now k cf).2.toList ++ acc)).count w =
      tok w c + (cbVals acc).count w ∧
    (c.sweepOne now k cf).1.store.items.WF := by
  rcases sweepOne_cases c now k cf with ⟨h, -⟩ | ⟨e, hg, -, ⟨-, h⟩ | ⟨-, h⟩⟩ <;> rw [h]
  · exact ⟨rfl, hwf⟩
  · exact ⟨by simp, by simpa using hwf⟩
  · exact ⟨by simp +arith [KMap.count_vals_erase hwf hg], KMap.wf_erase _ k hwf⟩

theorem sweepKeys_tok (keys : List (Nat × Nat)) (c : Cache) (now : Nat) (acc : List CB)
    (hwf : c.store.items.WF) (w : Nat) :
    tok w (c.sweepKeys now keys acc).1 + (cbVals (c.sweepKeys now keys acc).2).count w =
      tok w c + (cbVals acc).count w ∧
    (c.sweepKeys now keys acc).1.store.items.WF :=
  sweepKeys_induction (P := fun b l => tok w b + (cbVals l).count w = tok w c + (cbVals acc).count w ∧
    b.store.items.WF) keys c acc ⟨rfl, hwf⟩
    fun b l hb p _ => ⟨(sweepOne_tok b now p.1 p.2 l hb.2 w).1.trans hb.1, (sweepOne_tok b now p.1 p.2 l hb.2 w).2⟩

/-- `clear()` hands the buffered `New` values to `on_evict`, oldest first -/
theorem drain_cbVals (items : List Item) (c : Cache) :
    cbVals (items.foldl drainItem c).cbs = (newVals items).reverse ++ cbVals c.cbs := by
  induction items generalizing c with
  | nil => rfl
  | cons it rest ih => unfold cbVals at ih ⊢; cases it <;> simp [ih, drainItem]

/-- `handle_item` moves the value of the handled item — into the store, or to exactly one callback —
and moves every value it takes out of the store to exactly one callback. The hypothesis on `New`
(an admitted key is not resident) is what C06's invariant provides. -/
theorem handleItem_tok (c : Cache) (su : Nat → Nat → Bool) (est : Nat → Int)
    (refills : List (List (Nat × Int))) (it : Item) (hwf : c.store.items.WF) (w : Nat)
    (hnew : ∀ k cf cost v exp, it = Item.new k cf cost v exp →
      (policyAdd c.lfu est k (c.internalCost cost) refills).added = true → c.store.items.get k = none) :
    tok w (c.handleItem su est refills it) = tok w c + (newVals [it]).count w ∧
    (c.handleItem su est refills it).store.items.WF := by
  cases it with
  | wait id => exact ⟨rfl, hwf⟩
  | update k cost ext => exact ⟨by simp [handleItem_update], by simpa [handleItem_update] using hwf⟩
  | delete k cf =>
    rcases handleItem_delete_cases c su est refills k cf with ⟨-, h⟩ | ⟨e, hg, ⟨-, h⟩ | ⟨-, h⟩⟩ <;> rw [h]
    · exact ⟨by simp, by simpa using hwf⟩
    · exact ⟨rfl, hwf⟩
    · exact ⟨by simp +arith [KMap.count_vals_erase hwf hg], KMap.wf_erase _ k hwf⟩
  | new k cf cost v exp =>
    rw [handleItem_new]
    -- the victims' eviction keeps what the admission or refusal of `v` has established
    refine List.foldl_preserves (P := fun b =>
      tok w b = tok w c + (newVals [Item.new k cf cost v exp]).count w ∧ b.store.items.WF) evictOne _ _
      (fun b hb p _ => ⟨(evictOne_tok b p hb.2 w).1.trans hb.1, (evictOne_tok b p hb.2 w).2⟩) ?_
    split
    · have hk := hnew k cf cost v exp rfl ‹_›
      rcases Store.tryInsert_cases c.store su k v cf exp with ⟨em, h, -⟩ | ⟨-, h⟩
      · exact ⟨by simp +arith [h, KMap.erase_of_get_none _ k hk], by simpa [h] using KMap.wf_set _ k _ hwf⟩
      · simp [hk] at h
    · exact ⟨by simp +arith, by simpa using hwf⟩

-- the callback log ----------------------------------------------------------------------------------

/-- the callback log only grows -/
def CbsMono (c c' : Cache) : Prop := ∀ x, x ∈ c.cbs → x ∈ c'.cbs

theorem CbsMono.of_suffix {c c' : Cache} (h : c.cbs <:+ c'.cbs) : CbsMono c c' := fun _ hx => h.subset hx

theorem evictOne_cbs (c : Cache) (p : Nat × Int) : c.cbs <:+ (c.evictOne p).cbs := by
  obtain ⟨vk, vc⟩ := p
  rcases evictOne_cases c vk vc with ⟨-, h⟩ | ⟨e, -, h⟩ <;> simp [h]

theorem handleItem_cbs (c : Cache) (su : Nat → Nat → Bool) (est : Nat → Int)
    (refills : List (List (Nat × Int))) (it : Item) : c.cbs <:+ (c.handleItem su est refills it).cbs := by
  cases it with
  | wait id => exact List.suffix_rfl
  | update k cost ext => simp [handleItem_update]
  | delete k cf =>
    rcases handleItem_delete_cases c su est refills k cf with ⟨-, h⟩ | ⟨e, -, ⟨-, h⟩ | ⟨-, h⟩⟩ <;> simp [h]
  | new k cf cost v exp =>
    rw [handleItem_new]
    refine List.foldl_preserves (P := fun b => c.cbs <:+ b.cbs) evictOne _ _
      (fun b hb p _ => hb.trans (evictOne_cbs b p)) ?_
    split <;> simp

theorem drain_cbs (items : List Item) (c : Cache) : c.cbs <:+ (items.foldl drainItem c).cbs :=
  List.foldl_preserves (P := fun b => c.cbs <:+ b.cbs) drainItem items c
    (fun b hb it _ => hb.trans (by cases it <;> simp [drainItem])) List.suffix_rfl

end Cache

end Stretto
