import StrettoModel.Model.Store
import StrettoModel.Proofs.KMap
/-! The store operations by cases: which outcome under which condition, with the resulting store
written out. Proofs about the cache use these instead of unfolding `Store.*`. -/
namespace Stretto

/-- the sweep's re-check, in arithmetic -/
theorem Time.ttl_elapsed_iff (t : Time) (now : Nat) :
    (!t.isZero && t.isExpired now) = true ↔ 0 < t.d ∧ t.created + t.d ≤ now := by
  simp only [Time.isZero, Time.isExpired, Bool.and_eq_true, Bool.not_eq_true', beq_eq_false_iff_ne,
    decide_eq_true_eq, ge_iff_le]
  exact ⟨fun ⟨h0, h1, h2⟩ => ⟨Nat.pos_of_ne_zero h0, Nat.add_le_of_le_sub' h1 h2⟩,
    fun ⟨h0, h1⟩ => ⟨Nat.ne_of_gt h0, Nat.le_of_add_right_le h1, Nat.le_sub_of_add_le' h1⟩⟩

namespace Store

@[simp] theorem conflictOk_zero (e : Entry) : conflictOk 0 e = true := rfl

theorem lookup_expired (s : Store) (k cf now : Nat) (e : Entry)
    (he : s.items.get k = some e) (hd : 0 < e.exp.d) (hexp : e.exp.created + e.exp.d ≤ now) :
    s.lookup k cf now = none := by
  have h1 : e.exp.isZero = false := by simp [Time.isZero]; omega
  have h2 : e.exp.isExpired now = true := by
    simp only [Time.isExpired, Bool.and_eq_true, decide_eq_true_eq]; omega
  simp [lookup, he, h1, h2]

/-- what `lookup` serves is the resident entry, passing the conflict check and not expired -/
theorem lookup_some (s : Store) (k cf now : Nat) (e : Entry) (h : s.lookup k cf now = some e) :
    s.items.get k = some e ∧ conflictOk cf e = true ∧ (e.exp.d = 0 ∨ ¬ (now ≥ e.exp.created ∧ now - e.exp.created ≥ e.exp.d)) := by
  unfold lookup at h
  cases hg : s.items.get k with
  | none => simp [hg] at h
  | some e' =>
    simp only [hg] at h
    split at h
    · cases h
    · split at h
      · cases h
      · rename_i hc hx
        cases h
        refine ⟨rfl, by simpa using hc, ?_⟩
        simp only [Time.isZero, Time.isExpired, Bool.and_eq_true, Bool.not_eq_true', beq_eq_false_iff_ne,
          decide_eq_true_eq, not_and] at hx
        by_cases hz : e.exp.d = 0
        · exact Or.inl hz
        · exact Or.inr fun ⟨h1, h2⟩ => absurd h2 (by have := hx hz; omega)

/-- `try_update` replaces value and expiry of a resident entry that passes the conflict check and the
validator; in every other case the store is left alone and the result is not `update` -/
theorem tryUpdate_cases (s : Store) (su : Nat → Nat → Bool) (k v cf : Nat) (t : Time) :
    (∃ e, s.items.get k = some e ∧ conflictOk cf e = true ∧ su e.val v = true ∧
      s.tryUpdate su k v cf t =
        ({ items := s.items.set k { e with val := v, exp := t }, em := s.em.tryUpdate k cf e.exp t },
         .update e.val)) ∨
    ((s.tryUpdate su k v cf t).1 = s ∧ ∀ old, (s.tryUpdate su k v cf t).2 ≠ .update old) := by
  unfold tryUpdate
  cases hg : s.items.get k with
  | none => exact Or.inr ⟨rfl, fun _ h => nomatch h⟩
  | some e =>
    cases hc : conflictOk cf e with
    | false => exact Or.inr ⟨by simp [hc], by simp [hc]⟩
    | true =>
      cases hs : su e.val v with
      | false => exact Or.inr ⟨by simp [hc, hs], by simp [hc, hs]⟩
      | true => exact Or.inl ⟨e, rfl, hc, hs, by simp [hc, hs]⟩

/-- `try_remove` takes out a resident entry that passes the conflict check, and nothing else -/
theorem tryRemove_cases (s : Store) (k cf : Nat) :
    (∃ e, s.items.get k = some e ∧ conflictOk cf e = true ∧
      s.tryRemove k cf =
        ({ items := s.items.erase k, em := if e.exp.isZero then s.em else s.em.tryRemove k e.exp }, some e)) ∨
    (s.tryRemove k cf = (s, none) ∧ ∀ e, s.items.get k = some e → conflictOk cf e = false) := by
  unfold tryRemove
  cases hg : s.items.get k with
  | none => exact Or.inr ⟨rfl, fun _ h => nomatch h⟩
  | some e =>
    cases hc : conflictOk cf e with
    | false => exact Or.inr ⟨by simp [hc], fun e' h => by cases h; exact hc⟩
    | true => exact Or.inl ⟨e, rfl, hc, by simp [hc]⟩

/-- the processor's `try_insert` stores `⟨cf, v, t⟩` under a free index, or over an entry that passes
the conflict check and the validator; otherwise it leaves the store alone -/
theorem tryInsert_cases (s : Store) (su : Nat → Nat → Bool) (k v cf : Nat) (t : Time) :
    (∃ em, s.tryInsert su k v cf t = { items := s.items.set k ⟨cf, v, t⟩, em := em } ∧
      (s.items.get k = none ∧ em = s.em.tryInsert k cf t ∨
       ∃ e, s.items.get k = some e ∧ conflictOk cf e = true ∧ su e.val v = true ∧
         em = s.em.tryUpdate k cf e.exp t)) ∨
    (s.tryInsert su k v cf t = s ∧ (s.items.get k).isSome = true) := by
  unfold tryInsert
  cases hg : s.items.get k with
  | none => exact Or.inl ⟨_, rfl, Or.inl ⟨rfl, rfl⟩⟩
  | some e =>
    cases hc : conflictOk cf e with
    | false => exact Or.inr ⟨by simp [hc], rfl⟩
    | true =>
      cases hs : su e.val v with
      | false => exact Or.inr ⟨by simp [hc, hs], rfl⟩
      | true => exact Or.inl ⟨_, by simp [hc, hs], Or.inr ⟨e, rfl, hc, hs, rfl⟩⟩

theorem tryInsert_wf (s : Store) (su : Nat → Nat → Bool) (k v cf : Nat) (t : Time)
    (h : s.items.WF) : (s.tryInsert su k v cf t).items.WF := by
  rcases tryInsert_cases s su k v cf t with ⟨em, hr, -⟩ | ⟨hr, -⟩ <;> rw [hr]
  · exact KMap.wf_set _ _ _ h
  · exact h

theorem tryInsert_isSome (s : Store) (su : Nat → Nat → Bool) (k v cf : Nat) (t : Time) :
    ((s.tryInsert su k v cf t).items.get k).isSome = true := by
  rcases tryInsert_cases s su k v cf t with ⟨em, hr, -⟩ | ⟨hr, hk⟩ <;> rw [hr]
  · simp
  · exact hk

theorem tryInsert_get_ne (s : Store) (su : Nat → Nat → Bool) (k v cf : Nat) (t : Time) {j : Nat} (hj : j ≠ k) :
    (s.tryInsert su k v cf t).items.get j = s.items.get j := by
  rcases tryInsert_cases s su k v cf t with ⟨em, hr, -⟩ | ⟨hr, -⟩ <;> rw [hr]
  simp [hj]

theorem tryUpdate_hit {s : Store} {su : Nat → Nat → Bool} {k v cf : Nat} {t : Time} {e : Entry}
    (he : s.items.get k = some e) (h : (conflictOk cf e && su e.val v) = true) :
    s.tryUpdate su k v cf t =
      ({ items := s.items.set k { e with val := v, exp := t }, em := s.em.tryUpdate k cf e.exp t }, .update e.val) := by
  simp [tryUpdate, he, Bool.and_eq_true_iff.mp h]

theorem tryUpdate_miss {s : Store} {su : Nat → Nat → Bool} {k v cf : Nat} {t : Time}
    (h : ∀ e, s.items.get k = some e → (conflictOk cf e && su e.val v) = false) :
    (s.tryUpdate su k v cf t).1 = s ∧ ∀ old, (s.tryUpdate su k v cf t).2 ≠ .update old := by
  rcases tryUpdate_cases s su k v cf t with ⟨e, he, hc, hs, -⟩ | h'
  · have := h e he; rw [hc, hs] at this; cases this
  · exact h'

/-- the converse of `lookup_some` -/
theorem lookup_live {s : Store} {k cf now : Nat} {e : Entry} (he : s.items.get k = some e)
    (hc : conflictOk cf e = true) (hl : e.exp.d = 0 ∨ now < e.exp.created + e.exp.d) :
    s.lookup k cf now = some e := by
  have : (!e.exp.isZero && e.exp.isExpired now) = false := by
    simp only [Time.isZero, Time.isExpired, Bool.and_eq_false_iff, Bool.not_eq_false', beq_iff_eq,
      decide_eq_false_iff_not]
    omega
  simp [lookup, he, hc, this]

theorem tryRemove_twice (s : Store) (k cf : Nat) : ((s.tryRemove k cf).1.tryRemove k cf).1 = (s.tryRemove k cf).1 := by
  rcases tryRemove_cases s k cf with ⟨e, -, -, hr⟩ | ⟨hr, -⟩ <;> rw [hr]
  · rcases tryRemove_cases ⟨s.items.erase k, if e.exp.isZero then s.em else s.em.tryRemove k e.exp⟩ k cf with
      ⟨e', he', -, -⟩ | ⟨hr', -⟩
    · simp at he'
    · rw [hr']
  · dsimp only; rw [hr]

end Store
end Stretto
