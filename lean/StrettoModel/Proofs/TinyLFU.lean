import StrettoModel.Model.TinyLFU
import StrettoModel.Proofs.Sketch
import StrettoModel.Proofs.Bloom
/-! Invariant of the TinyLFU estimator between two aging resets. -/
namespace Stretto
namespace TinyLFU

structure WF (t : TinyLFU) : Prop where
  sk : t.sk.WF
  depth : t.sk.rows ≠ []
  probes : 0 < t.dk.k

/-- ghost version of `increment`: also maintains the list of keys recorded since the last reset -/
def incrementG (t : TinyLFU) (since : List Nat) (h : Nat) : Option (TinyLFU × List Nat) :=
  (t.increment h).map (fun t' => (t', if t.w + 1 ≥ t.samples then [] else h :: since))

def runG (t : TinyLFU) (since : List Nat) : List Nat → Option (TinyLFU × List Nat)
  | [] => some (t, since)
  | h :: hs => match incrementG t since h with
    | none => none
    | some (t', since') => runG t' since' hs

/-- `since.count k ≥ 1 → doorkeeper has k`, and every counter of `k` is ≥ `min (count - 1) 15` -/
def Inv (t : TinyLFU) (since : List Nat) : Prop :=
  t.WF ∧ ∀ k, (0 < since.count k → t.dk.contains k = true) ∧
    t.sk.LB k (min (since.count k - 1) 15)

theorem inv_nil (t : TinyLFU) (hwf : t.WF) : Inv t [] :=
  ⟨hwf, fun k => ⟨by simp, by simpa using Sketch.LB_zero t.sk hwf.sk k⟩⟩

theorem reset_WF (t : TinyLFU) (hwf : t.WF) : t.reset.WF :=
  ⟨Sketch.reset_WF _ hwf.sk, by simpa [reset, Sketch.reset] using hwf.depth, hwf.probes⟩

theorem clear_WF (t : TinyLFU) (hwf : t.WF) : t.clear.WF :=
  ⟨Sketch.clear_WF _ hwf.sk, by simpa [clear, Sketch.clear] using hwf.depth, hwf.probes⟩

theorem tryReset_spec (t : TinyLFU) :
    t.tryReset.samples = t.samples ∧
    t.tryReset.w = (if t.w + 1 ≥ t.samples then 0 else t.w + 1) ∧
    (t.w + 1 ≥ t.samples → t.tryReset.dk.bits = []) := by
  unfold tryReset
  split <;> simp [*, reset, Bloom.reset]

theorem tryReset_inv (t : TinyLFU) (since : List Nat) (h : Inv t since) :
    Inv t.tryReset (if t.w + 1 ≥ t.samples then [] else since) := by
  have h' : Inv { t with w := t.w + 1 } since := ⟨⟨h.1.sk, h.1.depth, h.1.probes⟩, h.2⟩
  unfold tryReset
  simp only
  split
  · exact inv_nil _ (reset_WF _ h'.1)
  · exact h'

/-- the first half of `increment`: the key goes into the doorkeeper on first sight and into the
sketch from then on -/
def record (t : TinyLFU) (h : Nat) : Option TinyLFU :=
  if t.dk.contains h then (t.sk.increment h).map fun sk' => { t with sk := sk' }
  else some { t with dk := t.dk.add h }

theorem increment_eq (t : TinyLFU) (h : Nat) : t.increment h = (t.record h).map tryReset := by
  unfold increment record Bloom.containsOrAdd
  cases t.dk.contains h
  · rfl
  · simp [Function.comp_def]

theorem record_w (t t1 : TinyLFU) (h : Nat) (hr : t.record h = some t1) :
    t1.w = t.w ∧ t1.samples = t.samples := by
  unfold record at hr
  split at hr
  · obtain ⟨sk', _, rfl⟩ := Option.map_eq_some_iff.mp hr
    exact ⟨rfl, rfl⟩
  · cases hr
    exact ⟨rfl, rfl⟩

theorem record_inv (t : TinyLFU) (since : List Nat) (h : Nat) (hinv : Inv t since) :
    ∃ t1, t.record h = some t1 ∧ Inv t1 (h :: since) := by
  obtain ⟨hwf, hk⟩ := hinv
  unfold record
  split
  · -- already in the doorkeeper: the sketch is incremented
    rename_i hc
    obtain ⟨sk', hsk', hwf', _, hlen, hlb⟩ := Sketch.increment_spec t.sk hwf.sk h
    refine ⟨{ t with sk := sk' }, by rw [hsk']; rfl, ⟨hwf', fun hnil => ?_, hwf.probes⟩, fun k => ?_⟩
    · exact hwf.depth (List.eq_nil_of_length_eq_zero (by rw [← hlen, hnil]; rfl))
    · have := hlb k _ (hk k).2
      by_cases hkh : k = h
      · subst hkh
        rw [if_pos rfl] at this
        refine ⟨fun _ => hc, Sketch.LB_mono _ _ _ _ ?_ this⟩
        rw [List.count_cons_self, Nat.add_sub_cancel]; omega
      · rw [if_neg hkh] at this
        simp only [List.count_cons, beq_iff_eq, Ne.symm hkh, if_false, Nat.add_zero]
        exact ⟨(hk k).1, this⟩
  · -- first sighting since the reset: only the doorkeeper changes
    rename_i hc
    refine ⟨{ t with dk := t.dk.add h }, rfl,
      ⟨hwf.sk, hwf.depth, by simpa using hwf.probes⟩, fun k => ?_⟩
    by_cases hkh : k = h
    · subst hkh
      have hzero : since.count k = 0 := Nat.eq_zero_of_not_pos fun hpos => hc ((hk k).1 hpos)
      exact ⟨fun _ => Bloom.contains_add_self _ _, by simpa [hzero] using (hk k).2⟩
    · simp only [List.count_cons, beq_iff_eq, Ne.symm hkh, if_false, Nat.add_zero]
      exact ⟨fun hpos => Bloom.contains_add_mono _ _ _ ((hk k).1 hpos), (hk k).2⟩

/-- one recorded access preserves the invariant and never panics -/
theorem incrementG_inv (t : TinyLFU) (since : List Nat) (h : Nat) (hinv : Inv t since) :
    ∃ t' since', incrementG t since h = some (t', since') ∧ Inv t' since' := by
  obtain ⟨t1, hrec, hinv1⟩ := record_inv t since h hinv
  obtain ⟨hw, hs⟩ := record_w t t1 h hrec
  exact ⟨_, _, by rw [incrementG, increment_eq, hrec]; rfl, hw ▸ hs ▸ tryReset_inv t1 _ hinv1⟩

theorem runG_inv (t : TinyLFU) (since hs : List Nat) (hinv : Inv t since) :
    ∃ t' since', runG t since hs = some (t', since') ∧ Inv t' since' := by
  induction hs generalizing t since with
  | nil => exact ⟨t, since, rfl, hinv⟩
  | cons h hs ih =>
    obtain ⟨t1, s1, h1, hinv1⟩ := incrementG_inv t since h hinv
    obtain ⟨t2, s2, h2, hinv2⟩ := ih t1 s1 hinv1
    exact ⟨t2, s2, by simp [runG, h1, h2], hinv2⟩

/-- what the invariant says about estimates -/
theorem estimate_of_inv (t : TinyLFU) (since : List Nat) (hinv : Inv t since) (k : Nat) :
    ∃ e, t.estimate k = some e ∧ min (since.count k) 16 ≤ e ∧ e ≤ 16 := by
  obtain ⟨hwf, hk⟩ := hinv
  obtain ⟨e0, he0, hle0⟩ := Sketch.estimate_ge_of_LB t.sk k _ (by omega) (hk k).2
  have h15 := Sketch.estimate_le_15 t.sk hwf.sk hwf.depth k e0 he0
  unfold estimate
  simp only [he0, Option.map_some]
  refine ⟨_, rfl, ?_, ?_⟩
  · by_cases hpos : 0 < since.count k
    · simp only [(hk k).1 hpos, if_true]; omega
    · rw [Nat.eq_zero_of_not_pos hpos]; exact Nat.zero_le _
  · split
    · exact Nat.succ_le_succ h15
    · exact Nat.le_succ_of_le h15

theorem estimate_zero (t : TinyLFU) (k : Nat) (hsk : t.sk.estimate k = some 0)
    (hdk : t.dk.contains k = false) : t.estimate k = some 0 := by
  rw [estimate, hsk, hdk]; rfl

/-- ghost version counting the aging resets -/
def runR (t : TinyLFU) (n : Nat) : List Nat → Option (TinyLFU × Nat)
  | [] => some (t, n)
  | h :: hs => match t.increment h with
    | none => none
    | some t' => runR t' (if t.w + 1 ≥ t.samples then n + 1 else n) hs

theorem increment_w (t t' : TinyLFU) (h : Nat) (hi : t.increment h = some t') :
    t'.samples = t.samples ∧ t'.w = (if t.w + 1 ≥ t.samples then 0 else t.w + 1) ∧
    (t.w + 1 ≥ t.samples → t'.dk.bits = [] ) := by
  rw [increment_eq] at hi
  obtain ⟨t1, ht1, rfl⟩ := Option.map_eq_some_iff.mp hi
  obtain ⟨hw, hs⟩ := record_w t t1 h ht1
  exact hw ▸ hs ▸ tryReset_spec t1

/-- with `w < samples`, `resets * samples + w` counts the recorded accesses -/
theorem runR_spec (t t' : TinyLFU) (n n' : Nat) (hs : List Nat) (hw : t.w < t.samples)
    (hr : runR t n hs = some (t', n')) :
    t'.samples = t.samples ∧ t'.w < t.samples ∧
    n' * t.samples + t'.w = n * t.samples + t.w + hs.length := by
  induction hs generalizing t n with
  | nil => cases hr; exact ⟨rfl, hw, rfl⟩
  | cons h hs ih =>
    simp only [runR] at hr
    split at hr
    · cases hr
    · rename_i t1 hi
      obtain ⟨hs1, hw1, _⟩ := increment_w t t1 h hi
      -- the step adds exactly one to `resets * samples + w`
      have hstep : t1.w < t.samples ∧
          (if t.w + 1 ≥ t.samples then n + 1 else n) * t.samples + t1.w = n * t.samples + t.w + 1 := by
        rw [hw1]
        split
        · rw [Nat.succ_mul]; omega
        · omega
      obtain ⟨h1, h2, h3⟩ := ih t1 _ (hs1 ▸ hstep.1) hr
      rw [hs1] at h1 h2 h3
      exact ⟨h1, h2, by rw [h3, hstep.2, List.length_cons]; omega⟩

end TinyLFU
end Stretto
