import StrettoModel.Model.Bloom
/-! Lemmas about the Bloom filter model. -/
namespace Stretto
namespace Bloom

@[simp] theorem isSet_set (b : Bloom) (i j : Nat) : (b.set i).isSet j = (j == i || b.isSet j) :=
  List.contains_cons

@[simp] theorem set_exp (b : Bloom) (i : Nat) : (b.set i).exp = b.exp := rfl
@[simp] theorem set_k (b : Bloom) (i : Nat) : (b.set i).k = b.k := rfl

theorem foldl_set (ps : List Nat) (b : Bloom) :
    ps.foldl set b = { b with bits := ps.reverse ++ b.bits } := by
  induction ps generalizing b with
  | nil => rfl
  | cons p ps ih => simp [ih, set]

theorem add_eq (b : Bloom) (h : Nat) : b.add h = { b with bits := (b.probes h).reverse ++ b.bits } :=
  foldl_set _ b

@[simp] theorem add_k (b : Bloom) (h : Nat) : (b.add h).k = b.k := by rw [add_eq]

theorem probes_add (b : Bloom) (h g : Nat) : (b.add h).probes g = b.probes g := by rw [add_eq]; rfl

/-- a bit is set after `add h` iff it is one of `h`'s probe positions or was set before -/
theorem isSet_add (b : Bloom) (h j : Nat) :
    (b.add h).isSet j = ((b.probes h).contains j || b.isSet j) := by
  simp [add_eq, isSet]

/-- `contains` is monotone under `add` -/
theorem contains_add_mono (b : Bloom) (h g : Nat) (hc : b.contains g = true) :
    (b.add h).contains g = true := by
  unfold contains at *
  rw [probes_add, List.all_eq_true] at *
  intro p hp
  simp [isSet_add, hc p hp]

/-- a hash is reported present right after it was added -/
theorem contains_add_self (b : Bloom) (h : Nat) : (b.add h).contains h = true := by
  unfold contains
  rw [probes_add, List.all_eq_true]
  intro p hp
  simp [isSet_add, hp]

/-- every probe position is a valid bit index: all accesses stay inside the vector -/
theorem pos_lt (b : Bloom) (h i : Nat) : b.pos h i < b.nbits :=
  Nat.mod_lt _ (Nat.two_pow_pos _)

theorem probes_lt (b : Bloom) (h p : Nat) (hp : p ∈ b.probes h) : p < b.nbits := by
  obtain ⟨i, _, rfl⟩ := List.mem_map.mp hp
  exact pos_lt b h i

/-- `contains` ⇔ all probe positions set (definitional, stated for the record) -/
theorem contains_iff_probes (b : Bloom) (h : Nat) :
    b.contains h = true ↔ ∀ i < b.k, b.isSet (b.pos h i) = true := by
  simp [contains, probes]

/-- an empty filter with at least one probe reports every hash absent -/
theorem contains_reset (b : Bloom) (hk : 0 < b.k) (h : Nat) : b.reset.contains h = false :=
  Bool.eq_false_iff.mpr fun hc => by
    simpa [reset, isSet] using (contains_iff_probes ..).mp hc 0 hk

theorem containsOrAdd_added_iff (b : Bloom) (h : Nat) :
    (b.containsOrAdd h).2 = true ↔ b.contains h = false := by
  unfold containsOrAdd; split <;> simp_all

end Bloom
end Stretto
