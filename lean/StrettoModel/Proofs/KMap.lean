import StrettoModel.Model.KMap
/-! Rewriting lemmas for `KMap`. -/
namespace Stretto
namespace KMap
variable {α : Type}

@[simp] theorem get_nil (k : Nat) : get ([] : KMap α) k = none := rfl

theorem get_cons (p : Nat × α) (m : KMap α) (k : Nat) :
    get (p :: m) k = if p.1 = k then some p.2 else get m k := by
  unfold get; simp [List.find?_cons]; split <;> simp_all

/-- `get` on a map filtered by a predicate on the key -/
theorem get_filter_key (m : KMap α) (q : Nat → Bool) (b : Nat) :
    get (m.filter (fun p => q p.1)) b = if q b then get m b else none := by
  induction m with
  | nil => simp
  | cons p m ih =>
    rw [List.filter_cons]
    by_cases hp : p.1 = b
    · subst hp; cases hq : q p.1 <;> simp [hq, get_cons, ih]
    · split <;> simp [get_cons, hp, ih]

@[simp, grind =] theorem get_erase (m : KMap α) (k j : Nat) :
    get (erase m k) j = if j = k then none else get m j := by
  rw [erase, get_filter_key m (· != k)]
  by_cases h : j = k <;> simp [h]

@[simp, grind =] theorem get_set (m : KMap α) (k j : Nat) (v : α) :
    get (set m k v) j = if j = k then some v else get m j := by
  unfold set; rw [get_cons]; simp; split <;> simp_all [eq_comm]

/-- overwriting a key that is there does not change which keys are there -/
theorem isSome_get_set (m : KMap α) (k : Nat) (v : α) (h : (m.get k).isSome = true) (j : Nat) :
    ((m.set k v).get j).isSome = (m.get j).isSome := by
  rw [get_set]; split
  · subst_vars; exact h.symm
  · rfl

theorem get_none_of_not_mem (m : KMap α) (k : Nat) (h : k ∉ keys m) : get m k = none := by
  induction m with
  | nil => rfl
  | cons p m ih =>
    simp only [keys, List.map_cons, List.mem_cons, not_or] at h
    rw [get_cons, if_neg (Ne.symm h.1), ih h.2]

theorem mem_of_get (m : KMap α) (k : Nat) (v : α) (h : get m k = some v) : (k, v) ∈ m := by
  induction m with
  | nil => simp at h
  | cons p m ih =>
    rw [get_cons] at h
    split at h
    · cases h; subst_vars; exact List.mem_cons_self
    · exact List.mem_cons_of_mem _ (ih h)

theorem mem_keys_of_get (m : KMap α) (k : Nat) (v : α) (h : get m k = some v) : k ∈ keys m :=
  List.mem_map.mpr ⟨(k, v), mem_of_get m k v h, rfl⟩

theorem get_of_mem (m : KMap α) (hwf : WF m) (k : Nat) (v : α) (h : (k, v) ∈ m) : get m k = some v := by
  induction m with
  | nil => cases h
  | cons p m ih =>
    obtain ⟨hnot, hw⟩ := List.nodup_cons.mp hwf
    rw [get_cons]
    rcases List.mem_cons.mp h with rfl | h
    · simp
    · have hne : p.1 ≠ k := fun e => hnot (List.mem_map.mpr ⟨(k, v), h, e.symm⟩)
      rw [if_neg hne, ih hw h]

theorem wf_nil : WF ([] : KMap α) := List.nodup_nil

theorem wf_erase (m : KMap α) (k : Nat) (h : WF m) : WF (erase m k) :=
  List.Nodup.sublist ((List.filter_sublist).map _) h

theorem keys_erase (m : KMap α) (k j : Nat) : j ∈ keys (erase m k) ↔ j ∈ keys m ∧ j ≠ k := by
  unfold keys erase
  simp only [List.mem_map, List.mem_filter]
  constructor
  · rintro ⟨p, ⟨hp, hne⟩, rfl⟩
    exact ⟨⟨p, hp, rfl⟩, by simpa using hne⟩
  · rintro ⟨⟨p, hp, rfl⟩, hne⟩
    exact ⟨p, ⟨hp, by simpa using hne⟩, rfl⟩

theorem wf_set (m : KMap α) (k : Nat) (v : α) (h : WF m) : WF (set m k v) :=
  List.nodup_cons.mpr ⟨fun hk => ((keys_erase m k k).mp hk).2 rfl, wf_erase m k h⟩

theorem erase_cons (p : Nat × α) (m : KMap α) (k : Nat) :
    erase (p :: m) k = if p.1 = k then erase m k else p :: erase m k := by
  simp [erase, List.filter_cons]

theorem erase_of_get_none (m : KMap α) (k : Nat) (h : get m k = none) : erase m k = m := by
  induction m with
  | nil => rfl
  | cons p m ih =>
    rw [get_cons] at h
    split at h
    · cases h
    · rw [erase_cons, if_neg ‹_›, ih h]

/-- a resident entry can be pulled to the front -/
theorem perm_erase {m : KMap α} (hwf : m.WF) {k : Nat} {v : α} (hg : m.get k = some v) :
    m.Perm ((k, v) :: m.erase k) := by
  induction m with
  | nil => cases hg
  | cons p m ih =>
    obtain ⟨hnot, hw⟩ := List.nodup_cons.mp hwf
    rw [get_cons] at hg
    rw [erase_cons]
    split at hg
    · cases hg; subst_vars
      rw [if_pos rfl, erase_of_get_none m p.1 (get_none_of_not_mem m p.1 hnot)]
    · rw [if_neg ‹_›]
      exact ((ih hw hg).cons p).trans (.swap ..)

theorem length_erase_le (m : KMap α) (k : Nat) : (erase m k).length ≤ m.length := by
  unfold erase; exact List.length_filter_le _ _

theorem length_erase_of_get_some (m : KMap α) (hwf : WF m) (k : Nat) (v : α) (h : get m k = some v) :
    (erase m k).length + 1 = m.length :=
  (perm_erase hwf h).length_eq.symm

theorem total_perm {m m' : KMap Int} (h : m.Perm m') : total m = total m' := by
  unfold total
  induction h with
  | nil => rfl
  | cons x _ ih => simp [ih]
  | swap x y l => simp only [List.map_cons, List.sum_cons]; omega
  | trans _ _ ih1 ih2 => exact ih1.trans ih2

theorem total_erase (m : KMap Int) (k : Nat) (h : WF m) :
    total (erase m k) = total m - (get m k).getD 0 := by
  cases hg : get m k with
  | none => simp [erase_of_get_none m k hg]
  | some v => rw [total_perm (perm_erase h hg)]; simp only [total, List.map_cons, List.sum_cons, Option.getD_some]; omega

theorem total_set (m : KMap Int) (k : Nat) (v : Int) (h : WF m) :
    total (set m k v) = total m - (get m k).getD 0 + v := by
  have := total_erase m k h
  unfold set; simp [total] at *; omega

end KMap
end Stretto
