import StrettoModel.Proofs.Cache
/-!
# Accounting of the policy's metric events

What a list of `MEv` adds up to, what the eleven `u64` counters make of it (mod 2^64), and how the
policy's operations balance their events against `used` and the number of charged keys.
-/
namespace Stretto

/-- net cost reported: Σ CostAdd − Σ CostEvict -/
def evCost : List MEv → Int
  | [] => 0
  | .costAdd d :: r => d + evCost r
  | .costEvict c :: r => -c + evCost r
  | _ :: r => evCost r

/-- number of `KeyEvict` events -/
def nEvict : List MEv → Nat
  | [] => 0
  | .keyEvict :: r => 1 + nEvict r
  | _ :: r => nEvict r

/-- number of `RejectSets` events -/
def nReject : List MEv → Nat
  | [] => 0
  | .rejectSets :: r => 1 + nReject r
  | _ :: r => nReject r

theorem evCost_cons (e : MEv) (r : List MEv) : evCost (e :: r) = evCost [e] + evCost r := by
  cases e <;> simp [evCost]

theorem nEvict_cons (e : MEv) (r : List MEv) : nEvict (e :: r) = nEvict [e] + nEvict r := by
  cases e <;> simp [nEvict]

theorem nReject_cons (e : MEv) (r : List MEv) : nReject (e :: r) = nReject [e] + nReject r := by
  cases e <;> simp [nReject]

theorem evCost_append (a b : List MEv) : evCost (a ++ b) = evCost a + evCost b := by
  induction a with
  | nil => simp [evCost]
  | cons x xs ih => rw [List.cons_append, evCost_cons, ih, evCost_cons x xs, Int.add_assoc]

theorem nEvict_append (a b : List MEv) : nEvict (a ++ b) = nEvict a + nEvict b := by
  induction a with
  | nil => simp [nEvict]
  | cons x xs ih => rw [List.cons_append, nEvict_cons, ih, nEvict_cons x xs, Nat.add_assoc]

theorem nReject_append (a b : List MEv) : nReject (a ++ b) = nReject a + nReject b := by
  induction a with
  | nil => simp [nReject]
  | cons x xs ih => rw [List.cons_append, nReject_cons, ih, nReject_cons x xs, Nat.add_assoc]

theorem evCost_reverse (a : List MEv) : evCost a.reverse = evCost a := by
  induction a with
  | nil => rfl
  | cons x xs ih => rw [List.reverse_cons, evCost_append, ih, evCost_cons x xs, Int.add_comm]

theorem nEvict_reverse (a : List MEv) : nEvict a.reverse = nEvict a := by
  induction a with
  | nil => rfl
  | cons x xs ih => rw [List.reverse_cons, nEvict_append, ih, nEvict_cons x xs, Nat.add_comm]

theorem nReject_reverse (a : List MEv) : nReject a.reverse = nReject a := by
  induction a with
  | nil => rfl
  | cons x xs ih => rw [List.reverse_cons, nReject_append, ih, nReject_cons x xs, Nat.add_comm]

theorem u64_cast (x : Int) : ((u64 x : Nat) : Int) = x % 18446744073709551616 :=
  Int.toNat_of_nonneg (Int.emod_nonneg _ (by decide))

/-- congruences of the shape "after ≡ before + tally" compose -/
theorem tally_trans {n r a' a x y : Int} (h1 : (r - (a' + y)) % n = 0) (h2 : (a' - (a + x)) % n = 0) :
    (r - (a + (x + y))) % n = 0 := by
  have : r - (a + (x + y)) = (r - (a' + y)) + (a' - (a + x)) := by omega
  rw [this, Int.add_emod, h1, h2]; rfl

theorem applyEv_spec (e : MEv) (m : Metrics) :
    (((m.applyEv e).costAdd : Int) - (m.applyEv e).costEvict - (m.costAdd - m.costEvict + evCost [e])) % 18446744073709551616 = 0 ∧
    (((m.applyEv e).keyEvict : Int) - (m.keyEvict + nEvict [e])) % 18446744073709551616 = 0 ∧
    (((m.applyEv e).rejectSets : Int) - (m.rejectSets + nReject [e])) % 18446744073709551616 = 0 ∧
    (m.applyEv e).keyAdd = m.keyAdd ∧ (m.applyEv e).hit = m.hit ∧ (m.applyEv e).miss = m.miss ∧
    (m.applyEv e).dropSets = m.dropSets ∧ (m.applyEv e).dropGets = m.dropGets ∧
    (m.applyEv e).keepGets = m.keepGets ∧ (m.applyEv e).lifeCount = m.lifeCount := by
  cases e <;> simp [Metrics.applyEv, evCost, nEvict, nReject, u64_cast, Int.emod_sub_emod] <;> omega

/-- what the counters make of a list of events, modulo 2^64; the other counters are untouched -/
theorem applyEvs_spec (evs : List MEv) (m : Metrics) :
    (((m.applyEvs evs).costAdd : Int) - (m.applyEvs evs).costEvict - (m.costAdd - m.costEvict + evCost evs)) % 18446744073709551616 = 0 ∧
    (((m.applyEvs evs).keyEvict : Int) - (m.keyEvict + nEvict evs)) % 18446744073709551616 = 0 ∧
    (((m.applyEvs evs).rejectSets : Int) - (m.rejectSets + nReject evs)) % 18446744073709551616 = 0 ∧
    (m.applyEvs evs).keyAdd = m.keyAdd ∧ (m.applyEvs evs).hit = m.hit ∧ (m.applyEvs evs).miss = m.miss ∧
    (m.applyEvs evs).dropSets = m.dropSets ∧ (m.applyEvs evs).dropGets = m.dropGets ∧
    (m.applyEvs evs).keepGets = m.keepGets ∧ (m.applyEvs evs).lifeCount = m.lifeCount := by
  induction evs generalizing m with
  | nil => simp [Metrics.applyEvs, evCost, nEvict, nReject]
  | cons e rest ih =>
    obtain ⟨h1, h2, h3, h4, h5, h6, h7, h8, h9, h10⟩ := ih (m.applyEv e)
    obtain ⟨s1, s2, s3, s4, s5, s6, s7, s8, s9, s10⟩ := applyEv_spec e m
    rw [evCost_cons, nEvict_cons, nReject_cons, Int.natCast_add, Int.natCast_add]
    exact ⟨tally_trans h1 s1, tally_trans h2 s2, tally_trans h3 s3, h4.trans s4, h5.trans s5, h6.trans s6,
      h7.trans s7, h8.trans s8, h9.trans s9, h10.trans s10⟩

/-- an operation of the policy balances its events against `used` and the number of charged keys -/
structure Bal (l l' : Lfu) (evs : List MEv) (added : Bool) : Prop where
  cost : l'.used = l.used + evCost evs
  keys : l'.costs.length + nEvict evs = l.costs.length + (if added then 1 else 0)

theorem Lfu.update_bal (l : Lfu) (k : Nat) (c : Int) (h : l.Inv) :
    Bal l (l.update k c).1 (l.update k c).2.2 false ∧ nReject (l.update k c).2.2 = 0 := by
  cases hg : l.costs.get k with
  | none => rw [Lfu.update_none c hg]; exact ⟨⟨by simp [evCost], by simp [nEvict]⟩, rfl⟩
  | some prev =>
    have hl := KMap.length_erase_of_get_some l.costs h.1 k prev hg
    rw [Lfu.update_some c hg]
    split
    · exact ⟨⟨by simp [evCost]; omega, by simp [nEvict, KMap.set]; omega⟩, rfl⟩
    · exact ⟨⟨by simp [evCost], by simp [nEvict, KMap.set]; omega⟩, rfl⟩

theorem policyRemove_bal (l : Lfu) (k : Nat) (h : l.Inv) :
    Bal l (policyRemove l k).1 (policyRemove l k).2 false ∧ nReject (policyRemove l k).2 = 0 := by
  have hl := Lfu.remove_length l k h
  unfold policyRemove
  rw [Lfu.remove_eq] at hl ⊢
  cases hg : l.costs.get k with
  | none => exact ⟨⟨by simp [evCost], by simpa [nEvict, hg] using hl⟩, rfl⟩
  | some c => exact ⟨⟨by simp [evCost]; omega, by simpa [nEvict, hg] using hl⟩, rfl⟩

/-- releasing a victim's charge balances against the events the loop records for it -/
theorem Lfu.remove_bal (l : Lfu) (k : Nat) (evs : List MEv) (h : l.Inv) :
    let evs' := match l.costs.get k with
      | some c => MEv.keyEvict :: MEv.costEvict c :: evs
      | none => evs
    (l.remove k).1.used - evCost evs' = l.used - evCost evs ∧
    (l.remove k).1.costs.length + nEvict evs' = l.costs.length + nEvict evs ∧
    nReject evs' = nReject evs := by
  have hl := Lfu.remove_length l k h
  rw [Lfu.remove_eq] at hl ⊢
  cases hg : l.costs.get k <;> simp [hg, evCost, nEvict, nReject] at hl ⊢ <;> omega

/-- the eviction loop, with its accumulators -/
theorem evictLoop_bal (est : Nat → Int) (incHits : Int) (key : Nat) (cost : Int)
    (refills : List (List (Nat × Int))) :
    ∀ (l : Lfu) (sample victims : List (Nat × Int)) (evs : List MEv) (log : List IterLog),
      l.Inv → l.costs.get key = none →
      let R := evictLoop est incHits key cost l sample victims evs log refills
      R.lfu.used - evCost R.events = l.used - evCost evs ∧
      R.lfu.costs.length + nEvict R.events = l.costs.length + nEvict evs + (if R.added then 1 else 0) ∧
      nReject R.events = nReject evs + (if R.added = false ∧ R.stuck = false then 1 else 0) := by
  intro l sample victims evs log hinv hk
  have run := evictLoop_run est incHits key cost l sample victims evs log refills
  generalize evictLoop est incHits key cost l sample victims evs log refills = R at run
  induction run with
  | admit =>
    simp only [evCost_reverse, nEvict_reverse, nReject_reverse, evCost, nEvict, nReject,
      Lfu.increment_length _ key cost hk]
    exact ⟨by simp only [Lfu.increment]; omega, by simp; omega, by simp⟩
  | stuck =>
    simp only [evCost_reverse, nEvict_reverse, nReject_reverse]
    simp
  | reject =>
    simp only [evCost_reverse, nEvict_reverse, nReject_reverse, evCost, nEvict, nReject]
    simp; omega
  | @evict l _ _ evs _ _ _ _ vk _ _ _ _ _ _ _ ih =>
    obtain ⟨h1, h2, h3⟩ := ih (l.remove_inv vk hinv) (by rw [Lfu.remove_get, hk]; exact ite_self _)
    obtain ⟨r1, r2, r3⟩ := l.remove_bal vk evs hinv
    exact ⟨h1.trans r1, h2.trans (congrArg (· + _) r2), h3.trans (congrArg (· + _) r3)⟩

/-- `policy.add`, all branches: events balance, `RejectSets` exactly for a refusal by the loop -/
theorem policyAdd_bal (l : Lfu) (est : Nat → Int) (key : Nat) (cost : Int)
    (refills : List (List (Nat × Int))) (hinv : l.Inv) :
    let R := policyAdd l est key cost refills
    Bal l R.lfu R.events R.added ∧
    nReject R.events = (if R.victims.isSome ∧ R.added = false ∧ R.stuck = false then 1 else 0) := by
  rcases policyAdd_cases l est key cost refills with ⟨_, e⟩ | ⟨_, _, _, e⟩ | ⟨_, hg, _, e⟩ | ⟨_, hg, _, e⟩ <;>
    rw [e]
  · exact ⟨⟨by simp [evCost], by simp [nEvict]⟩, by simp [nReject]⟩
  · exact ⟨(Lfu.update_bal l key cost hinv).1, by simpa using (Lfu.update_bal l key cost hinv).2⟩
  · exact ⟨⟨by simp [evCost, Lfu.increment], by simp [nEvict, Lfu.increment_length l key cost hg]⟩,
      by simp [nReject]⟩
  · obtain ⟨h1, h2, h3⟩ := evictLoop_bal est (est key) key cost refills l [] [] [] [] hinv hg
    have hv := ((evictLoop_run est (est key) key cost l [] [] [] [] refills).spec hg hinv rfl rfl
      (fun _ => rfl) rfl nofun).victims
    simp only [evCost, nEvict, nReject] at h1 h2 h3
    exact ⟨⟨by omega, by omega⟩, by rw [h3, hv]; simp⟩

end Stretto

namespace Stretto

/-- the part of the state the conservation laws speak about -/
def Cache.mcore (c : Cache) : KMap Int × Int × Bool × Nat × Nat × Nat × Nat :=
  (c.lfu.costs, c.lfu.used, c.cfg.metricsOn, c.metrics.costAdd, c.metrics.costEvict, c.metrics.keyAdd,
   c.metrics.keyEvict)

/-- **C17 conservation invariant**: keys distinct and `used = Σ charges` in the policy; with metrics
on, `cost_added − cost_evicted ≡ used` and `keys_added − keys_evicted ≡ #charged` (the counters are
`u64`s, so modulo 2^64 — which is equality whenever the true values fit) -/
def MInvCore (t : KMap Int × Int × Bool × Nat × Nat × Nat × Nat) : Prop :=
  (t.1.WF ∧ t.2.1 = KMap.total t.1) ∧
  (t.2.2.1 = true →
    ((t.2.2.2.1 : Int) - t.2.2.2.2.1 - t.2.1) % 18446744073709551616 = 0 ∧
    ((t.2.2.2.2.2.1 : Int) - t.2.2.2.2.2.2 - t.1.length) % 18446744073709551616 = 0)

def MInv (c : Cache) : Prop := MInvCore c.mcore

theorem MInv.lfuInv {c : Cache} (h : MInv c) : c.lfu.Inv := h.1

theorem minv_transfer {c c' : Cache} (h : c'.mcore = c.mcore) (hi : MInv c) : MInv c' := by
  unfold MInv; rw [h]; exact hi

/-- a policy operation whose events are applied to the counters (and `KeyAdd` bumped when a key was
added) re-establishes the conservation invariant -/
theorem minv_of_bal {c c' : Cache} {l' : Lfu} {evs : List MEv} {added : Bool} (hi : MInv c) (hinv' : l'.Inv)
    (hb : Bal c.lfu l' evs added) (hl : c'.lfu = l') (hcfg : c'.cfg.metricsOn = c.cfg.metricsOn)
    (hm : c.cfg.metricsOn = true →
      c'.metrics.costAdd = (c.metrics.applyEvs evs).costAdd ∧
      c'.metrics.costEvict = (c.metrics.applyEvs evs).costEvict ∧
      c'.metrics.keyEvict = (c.metrics.applyEvs evs).keyEvict ∧
      c'.metrics.keyAdd = (if added then u64 (c.metrics.keyAdd + 1) else c.metrics.keyAdd)) : MInv c' := by
  subst hl
  refine ⟨hinv', fun hon => ?_⟩
  have hon' : c.cfg.metricsOn = true := hcfg ▸ hon
  simp only [Cache.mcore, hm hon']
  constructor
  · have i := (hi.2 hon').1
    have := (applyEvs_spec evs c.metrics).1
    have := hb.cost
    simp only [Cache.mcore] at i
    omega
  · have i := (hi.2 hon').2
    have := (applyEvs_spec evs c.metrics).2.1
    have hk := hb.keys
    have := u64_cast (c.metrics.keyAdd + 1)
    simp only [Cache.mcore] at i
    cases added <;> simp only [Bool.false_eq_true, if_false, if_true] at hk ⊢ <;> omega

/-- a policy operation that adds no key, with its events applied -/
theorem minv_applyEvs {c : Cache} {l' : Lfu} {evs : List MEv} (hi : MInv c) (hinv' : l'.Inv)
    (hb : Bal c.lfu l' evs false) : MInv (({ c with lfu := l' } : Cache).met fun m => m.applyEvs evs) :=
  minv_of_bal hi hinv' hb (by simp) (by simp) fun hon => by simp [Cache.met_metrics, hon]

private theorem policyRemove_inv' (l : Lfu) (k : Nat) (h : l.Inv) : (policyRemove l k).1.Inv := by
  have : (policyRemove l k).1 = (l.remove k).1 := by
    unfold policyRemove
    cases h2 : l.remove k with
    | mk l2 o => cases o <;> rfl
  rw [this]; exact Lfu.remove_inv l k h

theorem uncharge_minv {c : Cache} (k : Nat) (hi : MInv c) : MInv (c.uncharge k) :=
  minv_applyEvs hi (policyRemove_inv' c.lfu k hi.lfuInv) (policyRemove_bal c.lfu k hi.lfuInv).1

end Stretto
