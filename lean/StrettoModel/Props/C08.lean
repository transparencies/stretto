import StrettoModel.Proofs.Tokens
import StrettoModel.Props.C06
/-!
# C08 — Every value leaves the cache through exactly one callback

Values are opaque ids. `tok w c` (Proofs/Tokens.lean) counts the places value `w` occupies in state
`c`: resident in the store, carried by a buffered insert, or recorded in the callback log (`on_exit`,
`on_evict`, `on_reject`). The theorems say that every step *moves* values between these places and
never duplicates or loses one, except for the three ways a value legitimately disappears: dropped by
the served `clear()` (resident values), dropped with the buffer by `close()`'s stop, or overwritten in
place by the user through `get_mut`.

Quantification: every run of the transition system of `Model/Lts.lean`, every validator, every oracle
input satisfying C06's guards (`ActOk`: no sampled victim is the incoming key; filed conflict hashes
pass the store's check), every value id.
-/
namespace Stretto.C08
open Stretto

/-- how many places value `w` gains by action `a` (a write that the cache accepted) -/
def gained (su : Nat → Nat → Bool) (c : Cache) (w : Nat) : Act → Nat
  | .insert k cf v cost ttl now coster only => ind ((c.insert su k cf v cost ttl now coster only).2 && v == w)
  | .getMut k cf now v => ind ((c.getMutWrite k cf now v).2.isSome && v == w)
  | _ => 0

/-- how many places value `w` loses by action `a` without a callback: the three stated exceptions -/
def lost (c : Cache) (w : Nat) : Act → Nat
  | .getMut k cf now v => match (c.getMutWrite k cf now v).2 with
      | some old => ind (old == w)      -- overwritten in place by the user
      | none => 0
  | .procClear => if c.procClear.isSome then (vals c.store.items).count w else 0   -- dropped by clear()
  | .procStop => if c.procStop.isSome then (newVals c.buf).count w else 0          -- dropped by close()
  | _ => 0

section
/- `simp +arith` turns `tok w` of a state written out into a sum of counts over the old state's lists and
of indicators, and compares the sums; `count_vals_erase` is given where an entry leaves the store. -/
attribute [local simp] tok newVals newVals_append cbVals CB.val List.count_append count_cons_ind
  KMap.count_vals_set gained lost

/-- **one step moves values, never duplicates or loses them** -/
theorem step_tok (su : Nat → Nat → Bool) (c c' : Cache) (a : Act) (w : Nat) (hs : c.step su a = some c')
    (hwf : c.store.items.WF) (hgood : Good06 c) :
    tok w c' + lost c w a = tok w c + gained su c w a ∧ c'.store.items.WF := by
  apply step_induction (motive := fun a c' =>
    tok w c' + lost c w a = tok w c + gained su c w a ∧ c'.store.items.WF) hs
  case insert =>
    intro k cf v cost ttl now coster only
    dsimp only [gained, lost]
    rcases Cache.insert_cases c su k cf v cost ttl now coster only with
      ⟨e, -, hg, -, -, h⟩ | ⟨-, -, h⟩ | ⟨-, -, h⟩ | h <;> rw [h]
    · exact ⟨by simp +arith [apply_ite newVals, KMap.count_vals_erase hwf hg], KMap.wf_set _ k _ hwf⟩
    · exact ⟨by simp +arith, hwf⟩
    · simpa using hwf
    · exact ⟨rfl, hwf⟩
  case get => intro k cf now; simpa using hwf
  case getMut =>
    intro k cf now v
    rcases Bool.eq_false_or_eq_true c.closed with hc | hc
    · simpa [Cache.getMutWrite, hc] using hwf
    · dsimp only [gained, lost]
      rw [Cache.getMutWrite_eq c k cf now v hc]
      cases hl : c.store.lookup k cf now with
      | none => simpa using hwf
      | some e =>
        have hg := (Store.lookup_some _ _ _ _ _ hl).1
        exact ⟨by simp +arith [KMap.count_vals_erase hwf hg], by simpa using KMap.wf_set _ k _ hwf⟩
  case remove =>
    intro k cf
    rcases Bool.eq_false_or_eq_true c.closed with hc | hc
    · simpa [Cache.remove, hc] using hwf
    · rw [Cache.remove_eq c k cf hc]
      rcases Store.tryRemove_cases c.store k cf with ⟨e, hg, -, hr⟩ | ⟨hr, -⟩ <;> rw [hr]
      · exact ⟨by simp +arith [apply_ite newVals, KMap.count_vals_erase hwf hg], KMap.wf_erase _ k hwf⟩
      · exact ⟨by simp [apply_ite newVals], hwf⟩
  case waitEnq =>
    intro id
    rcases Cache.waitEnq_cases c id with h | h <;> rw [h]
    · exact ⟨rfl, hwf⟩
    · exact ⟨by simp, hwf⟩
  case clearReq => intro id; simpa using hwf
  case closeBegin => intro id; simpa using hwf
  case updateMaxCost => intro mc; exact ⟨rfl, hwf⟩
  case procItem =>
    intro est refills c' h
    obtain ⟨halive, it, rest, hb, rfl⟩ := Cache.procItem_some h
    have hinv : Inv06 c := hgood.resolve_left (by simp [halive])
    have := Cache.handleItem_tok ({ c with buf := rest } : Cache).admitPending su est refills it (by simpa using hwf) w
      fun k cf cost v exp _ hadd => by
        -- the policy admits only keys it does not charge, and resident keys are charged (C06)
        have hfree := ((policyAdd_spec _ _ _ _ _ hinv.lfuInv).admitted (by simpa [Cache.internalCost] using hadd)).2.2
        cases hg : c.store.items.get k with
        | none => simpa using hg
        | some e => have := hinv.resident_charged k (by simp [hg]); simp [hfree] at this
    have hcons : newVals (it :: (rest ++ c.pendingSends)) = _ := newVals_append [it] _
    refine ⟨?_, this.2⟩
    rw [this.1, Cache.admitPending_tok]
    simp +arith [hb, hcons]
  case procClear =>
    intro c' h
    simp only [lost, gained, h, Option.isSome_some, if_true]
    obtain ⟨-, id, rest, -, rfl⟩ := Cache.procClear_some h
    have := congrArg (List.count w) (Cache.drain_cbVals c.buf { c with buf := [], clearQ := rest })
    exact ⟨by simpa +arith [Store.empty, vals] using this, KMap.wf_nil⟩
  case procTick =>
    intro now order c' h
    obtain ⟨-, rfl⟩ := Cache.procTick_some h
    have := Cache.sweepKeys_tok order { c with store := { c.store with em := (c.store.em.tryCleanup now).1 } } now [] hwf w
    exact ⟨by simpa +arith using this.1, by simpa using this.2⟩
  case procStop =>
    intro c' h
    simp only [lost, gained, h, Option.isSome_some, if_true]
    obtain ⟨-, rfl⟩ := Cache.procStop_some h
    exact ⟨by simp +arith, hwf⟩
  case policyWorker => intro b rest _; exact ⟨rfl, hwf⟩
  case policyClose => exact ⟨rfl, hwf⟩

end

/-- a step only adds to the callback log, at its front -/
theorem step_cbs (su : Nat → Nat → Bool) (c c' : Cache) (a : Act) (hs : c.step su a = some c') :
    c.cbs <:+ c'.cbs := by
  apply step_induction (motive := fun _ c' => c.cbs <:+ c'.cbs) hs
  case insert =>
    intro k cf v cost ttl now coster only
    rcases Cache.insert_cases c su k cf v cost ttl now coster only with
      ⟨e, -, -, -, -, h⟩ | ⟨-, -, h⟩ | ⟨-, -, h⟩ | h <;> simp [h]
  case get => simp
  case getMut => simp
  case remove =>
    intro k cf
    rcases Bool.eq_false_or_eq_true c.closed with hc | hc
    · simp [Cache.remove, hc]
    · simp [Cache.remove_eq c k cf hc]
  case waitEnq => simp
  case clearReq => simp
  case closeBegin => simp
  case updateMaxCost => simp
  case procItem =>
    intro est refills c' h
    obtain ⟨-, it, rest, -, rfl⟩ := Cache.procItem_some h
    simpa using Cache.handleItem_cbs ({ c with buf := rest } : Cache).admitPending su est refills it
  case procClear =>
    intro c' h
    obtain ⟨-, id, rest, -, rfl⟩ := Cache.procClear_some h
    exact Cache.drain_cbs c.buf { c with buf := [], clearQ := rest }
  case procTick => intro now order c' h; obtain ⟨-, rfl⟩ := Cache.procTick_some h; simp
  case procStop => intro c' h; obtain ⟨-, rfl⟩ := Cache.procStop_some h; simp
  case policyWorker => simp
  case policyClose => simp

/-- the callback log only grows -/
theorem step_cbsMono (su : Nat → Nat → Bool) (c c' : Cache) (a : Act) (hs : c.step su a = some c') :
    Cache.CbsMono c c' :=
  .of_suffix (step_cbs su c c' a hs)

-- runs ---------------------------------------------------------------------------------------------

/-- a write hands the cache a value that is nowhere in it (a Rust value is moved into the cache: each
accepted value is a distinct object) -/
def Fresh (c : Cache) : Act → Prop
  | .insert _ _ v _ _ _ _ _ => tok v c = 0
  | .getMut _ _ _ v => tok v c = 0
  | _ => True

/-- runs whose oracle inputs pass C06's guards and whose writes use fresh values -/
inductive Run (su : Nat → Nat → Bool) : Cache → Cache → Prop
  | refl (c : Cache) : Run su c c
  | step (c c' c'' : Cache) (a : Act) : Run su c c' → C06.ActOk c' a → Fresh c' a →
      c'.step su a = some c'' → Run su c c''

/-- what holds in every reachable state -/
structure Inv08 (c : Cache) : Prop where
  wf : c.store.items.WF
  good : Good06 c
  once : ∀ w, tok w c ≤ 1

theorem gained_le (su : Nat → Nat → Bool) (c : Cache) (w : Nat) (a : Act) (hf : Fresh c a) (h1 : tok w c ≤ 1) :
    tok w c + gained su c w a ≤ 1 := by
  -- a write of `w` itself finds `w` nowhere; any other write gains `w` nothing
  have key : ∀ (b : Bool) (v : Nat), tok v c = 0 → tok w c + ind (b && v == w) ≤ 1 := by
    intro b v hv
    cases h : v == w
    · simpa using h1
    · cases eq_of_beq h; cases b <;> simp [hv]
  unfold gained
  split
  · exact key _ _ hf
  · exact key _ _ hf
  · exact h1

theorem step_inv (su : Nat → Nat → Bool) (c c' : Cache) (a : Act) (hok : C06.ActOk c a) (hf : Fresh c a)
    (hs : c.step su a = some c') (h : Inv08 c) : Inv08 c' := by
  refine ⟨(step_tok su c c' a 0 hs h.wf h.good).2, C06.step_good su c c' a hok hs h.good, ?_⟩
  intro w
  have := (step_tok su c c' a w hs h.wf h.good).1
  have := gained_le su c w a hf (h.once w)
  omega

theorem tok_init (cfg : Cfg) (maxCost : Int) (samples : Nat) (w : Nat) : tok w (Cache.init cfg maxCost samples) = 0 :=
  rfl

theorem init_inv (cfg : Cfg) (maxCost : Int) (samples : Nat) : Inv08 (Cache.init cfg maxCost samples) :=
  ⟨KMap.wf_nil, C06.init_good cfg maxCost samples, fun w => by simp [tok_init]⟩

theorem reachable_inv (su : Nat → Nat → Bool) (c0 c : Cache) (h0 : Inv08 c0) (hr : Run su c0 c) : Inv08 c := by
  induction hr with
  | refl => exact h0
  | step c' c'' a _ hok hf hs ih => exact step_inv su c' c'' a hok hf hs ih

/-- **never both and never twice**: in every reachable state a value occupies at most one place — it
is not both resident and handed to a callback, not handed to two callbacks, not handed to one callback
twice, not resident under two keys. -/
theorem never_both_never_twice (su : Nat → Nat → Bool) (cfg : Cfg) (maxCost : Int) (samples : Nat)
    (c : Cache) (hr : Run su (Cache.init cfg maxCost samples) c) (w : Nat) :
    (vals c.store.items).count w + (newVals (c.buf ++ c.pendingSends)).count w + (cbVals c.cbs).count w ≤ 1 :=
  (reachable_inv su _ c (init_inv cfg maxCost samples) hr).once w

/-- **conservation along a run**: ghost totals of what was gained (accepted writes of `w`) and lost
(the three stated exceptions) -/
inductive RunG (su : Nat → Nat → Bool) (w : Nat) : Cache → Cache → Nat → Nat → Prop
  | refl (c : Cache) : RunG su w c c 0 0
  | step (c c' c'' : Cache) (a : Act) (g l : Nat) : RunG su w c c' g l → C06.ActOk c' a → Fresh c' a →
      c'.step su a = some c'' → RunG su w c c'' (g + gained su c' w a) (l + lost c' w a)

theorem RunG.toRun {su : Nat → Nat → Bool} {w : Nat} {c c' : Cache} {g l : Nat} (h : RunG su w c c' g l) :
    Run su c c' := by
  induction h with
  | refl => exact Run.refl _
  | step c' c'' a g l _ hok hf hs ih => exact Run.step _ c' c'' a ih hok hf hs

/-- along a run from any state in which every value occupies at most one place -/
theorem conservation_from (su : Nat → Nat → Bool) (w : Nat) (c0 c : Cache) (g l : Nat) (h0 : Inv08 c0)
    (hr : RunG su w c0 c g l) : tok w c + l = tok w c0 + g := by
  induction hr with
  | refl => rfl
  | step c' c'' a g l hr' hok hf hs ih =>
    have hi := reachable_inv su _ c' h0 hr'.toRun
    have := (step_tok su c' c'' a w hs hi.wf hi.good).1
    omega

/-- **nothing silently dropped**: along every run from the empty cache, the places value `w` occupies
now, plus the times it was dropped by `clear()`, dropped by `close()` or overwritten through `get_mut`,
equal the number of accepted writes of `w`. So a value accepted by an insert that returned true and not
covered by one of the exceptions is resident, still buffered, or in the callback log — and (previous
theorem) exactly once. -/
theorem conservation (su : Nat → Nat → Bool) (cfg : Cfg) (maxCost : Int) (samples : Nat) (w : Nat)
    (c : Cache) (g l : Nat) (hr : RunG su w (Cache.init cfg maxCost samples) c g l) :
    tok w c + l = g := by
  simpa [tok_init] using conservation_from su w _ c g l (init_inv cfg maxCost samples) hr

/-- at quiescence (nothing buffered) an accepted, non-excepted value is resident xor in the callback
log exactly once -/
theorem quiescent_resident_xor_called_back (su : Nat → Nat → Bool) (cfg : Cfg) (maxCost : Int) (samples : Nat)
    (w : Nat) (c : Cache) (hr : RunG su w (Cache.init cfg maxCost samples) c 1 0)
    (hq : c.buf = [] ∧ c.pendingSends = []) :
    (vals c.store.items).count w + (cbVals c.cbs).count w = 1 := by
  simpa [tok, hq.1, hq.2, newVals] using conservation su cfg maxCost samples w c 1 0 hr

theorem run_cbs (su : Nat → Nat → Bool) (c c' : Cache) (hr : Run su c c') : c.cbs <:+ c'.cbs := by
  induction hr with
  | refl => exact List.suffix_rfl
  | step c' c'' a _ _ _ hs ih => exact ih.trans (step_cbs su c' c'' a hs)

/-- from any state in which every value occupies at most one place -/
theorem called_back_never_returned_from (su : Nat → Nat → Bool) (c c' : Cache) (h0 : Inv08 c)
    (hr : Run su c c') (w : Nat) (hcb : w ∈ cbVals c.cbs) (k cf now : Nat) : (c'.get k cf now).2 ≠ some w := by
  intro hget
  obtain ⟨e, he, hv⟩ := Cache.get_resident hget
  -- `w` would be both resident and in the callback log
  have h1 : 0 < (vals c'.store.items).count w :=
    List.count_pos_iff.mpr (List.mem_map.mpr ⟨_, KMap.mem_of_get _ _ _ he, hv⟩)
  have h2 : 0 < (cbVals c'.cbs).count w :=
    List.count_pos_iff.mpr (((run_cbs su c c' hr).map CB.val).subset hcb)
  have := (reachable_inv su c c' h0 hr).once w
  simp only [tok] at this
  omega

/-- **a value handed to a callback is never returned by a later lookup** -/
theorem called_back_never_returned (su : Nat → Nat → Bool) (cfg : Cfg) (maxCost : Int) (samples : Nat)
    (c c' : Cache) (hr : Run su (Cache.init cfg maxCost samples) c) (hr' : Run su c c') (w : Nat)
    (hcb : w ∈ cbVals c.cbs) (k cf now : Nat) : (c'.get k cf now).2 ≠ some w :=
  called_back_never_returned_from su c c' (reachable_inv su _ c (init_inv cfg maxCost samples) hr) hr' w hcb k cf now

-- non-vacuity ---------------------------------------------------------------------------------------
def exCfg : Cfg := { itemSize := 56, ignoreInternal := true, bufCap := 4, ringCap := 2, pqCap := some 3, metricsOn := false }
/-- value 11 inserted and applied, then replaced by 12 (11 leaves through on_exit), then removed -/
def exActs : List Act :=
  [.insert 1 0 11 5 0 10 0 false, .procItem (fun _ => 0) [], .insert 1 0 12 5 0 10 0 false, .remove 1 0]
def exRun : Cache := Cache.run (fun _ _ => true) (Cache.init exCfg 100 5) exActs
example : cbVals exRun.cbs = [12, 11] ∧ vals exRun.store.items = [] ∧ tok 11 exRun = 1 ∧ tok 12 exRun = 1 := by decide


end Stretto.C08

#print axioms Stretto.C08.step_tok
#print axioms Stretto.C08.never_both_never_twice
#print axioms Stretto.C08.conservation
#print axioms Stretto.C08.quiescent_resident_xor_called_back
#print axioms Stretto.C08.called_back_never_returned
#print axioms Stretto.C08.step_cbsMono
