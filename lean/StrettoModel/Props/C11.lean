import StrettoModel.Props.C04
/-!
# C11 — clear() empties the cache and leaves it fully usable

`clear()` is: request (client) → the processor's clear iteration → return (client, once released).
Quantification: every cache state at the moment the processor serves the request — any amount of
buffered, not yet applied work, any resident set, any charges, expiry buckets, metrics.
-/
namespace Stretto.C11
open Stretto

/-- **clear_empties**: right after the processor has served a clear request, the store, the expiry
index, the charges, `used`, the insert buffer and all metrics counters are empty / zero, whatever
was resident, buffered or counted before. -/
theorem clear_empties (c c' : Cache) (h : c.procClear = some c') :
    c'.store = Store.empty ∧ c'.lfu.costs = [] ∧ c'.lfu.used = 0 ∧ c'.buf = [] ∧
    c'.metrics = {} ∧ c'.store.len = 0 ∧ c'.lfu.maxCost = c.lfu.maxCost := by
  obtain ⟨-, id, rest, -, rfl⟩ := Cache.procClear_some h
  simp [Lfu.clear, Store.empty, Store.len]

/-- **clear_eq_init**: that state is the state of a freshly built cache with the same configuration
and `max_cost` on every component that influences future behaviour of inserts, lookups, removes,
admissions and sweeps (store, expiry index, policy charges, buffer, counters). What may differ: the
pending get batch, the policy queue, the popularity sketch, callbacks already delivered. -/
theorem clear_eq_init (c c' : Cache) (h : c.procClear = some c') :
    let f := Cache.init c.cfg c.lfu.maxCost c.lfu.samples
    c'.store = f.store ∧ c'.lfu = f.lfu ∧ c'.buf = f.buf ∧ c'.metrics = f.metrics ∧ c'.cfg = f.cfg := by
  obtain ⟨-, id, rest, -, rfl⟩ := Cache.procClear_some h
  simp [Lfu.clear, Cache.init]

/-- no value survives the clear: nothing is resident and nothing is buffered, so no value written
before the request was served can ever be applied or returned afterwards -/
theorem nothing_live_after_clear (c c' : Cache) (h : c.procClear = some c') (k cf now : Nat) :
    c'.store.get k cf now = none ∧ c'.buf = [] := by
  obtain ⟨-, id, rest, -, rfl⟩ := Cache.procClear_some h
  simp [Store.get, Store.lookup, Store.empty]

/-- every buffered `New` value is handed to `on_evict` by the drain, every buffered wait marker is
released, and the requester is released -/
theorem drain_accounts (items : List Item) (c : Cache) :
    (∀ k cf cost v exp, Item.new k cf cost v exp ∈ items →
        CB.evict k cf v cost ∈ (items.foldl Cache.drainItem c).cbs) ∧
    (∀ id, Item.wait id ∈ items → id ∈ (items.foldl Cache.drainItem c).released) ∧
    (∀ cb ∈ c.cbs, cb ∈ (items.foldl Cache.drainItem c).cbs) ∧
    (∀ id ∈ c.released, id ∈ (items.foldl Cache.drainItem c).released) := by
  induction items generalizing c with
  | nil => simp
  | cons it rest ih =>
    obtain ⟨i1, i2, i3, i4⟩ := ih (c.drainItem it)
    simp only [List.foldl_cons, List.mem_cons]
    refine ⟨?_, ?_, fun cb h => i3 cb ?_, fun id h => i4 id ?_⟩
    · rintro k cf cost v exp (rfl | hm)
      · exact i3 _ (by simp [Cache.drainItem])
      · exact i1 k cf cost v exp hm
    · rintro id (rfl | hm)
      · exact i4 _ (by simp [Cache.drainItem])
      · exact i2 id hm
    · cases it <;> simp [Cache.drainItem, h]
    · cases it <;> simp [Cache.drainItem, h]

theorem clear_releases_requester (c c' : Cache) (h : c.procClear = some c') :
    ∃ id rest, c.clearQ = id :: rest ∧ id ∈ c'.released ∧ c'.clearQ = rest ∧
      (∀ w, Item.wait w ∈ c.buf → w ∈ c'.released) := by
  obtain ⟨-, id, rest, hq, rfl⟩ := Cache.procClear_some h
  exact ⟨id, rest, hq, by simp, by simp, fun w hw => List.mem_cons_of_mem _ ((drain_accounts c.buf _).2.1 w hw)⟩

/-- a blocked `clear()` can only return after the processor released it (or the cache was closed) -/
theorem clear_returns_only_when_served (c : Cache) (id : Nat) (h : c.mayReturn id true = true) :
    id ∈ c.released ∨ c.closed = true := by
  simpa [Cache.mayReturn] using h

/-- **behaves like a fresh cache** (from C04's refinement): after any sequential history, once a
`clear()` has been taken to quiescence, every later history of inserts (any TTL or none, re-using old
keys), removes, lookups, ticks and clears is a run of the abstract map with TTLs started from the
*empty* map — word for word what `C04.refines_ttl_map` states of a newly built cache. -/
theorem behaves_like_fresh (su : Nat → Nat → Bool) (cfg : Cfg) (maxCost : Int) (samples : Nat) (hcap : 0 < cfg.bufCap)
    (ops₁ ops₂ : List C04.QOp) (id : Nat) (c₁ c : Cache)
    (h₁ : C04.QRun su (Cache.init cfg maxCost samples) ops₁ c₁) (hok : C04.OpOk c₁ (.clear id))
    (h₂ : C04.QRun su (C04.qstep su c₁ (.clear id)) ops₂ c) :
    C04.Quiet c ∧ C04.SpecRun su (fun _ => none) ops₂ (fun k => c.store.items.get k) :=
  C04.cleared_is_fresh_map su cfg maxCost samples hcap ops₁ ops₂ id c₁ c h₁ hok h₂

-- non-vacuity -------------------------------------------------------------------------------
def exCfg : Cfg := { itemSize := 56, ignoreInternal := false, bufCap := 4, ringCap := 2, pqCap := some 3, metricsOn := true }
def exBusy : Cache :=
  { Cache.init exCfg 100 5 with
    store := { items := [(1, ⟨0, 11, ⟨0, 5⟩⟩)], em := [(9, [(1, 0)])] },
    lfu := { costs := [(1, 60)], used := 60, maxCost := 100, samples := 5 },
    buf := [Item.new 2 0 7 22 ⟨0, 6⟩, Item.wait 3], clearQ := [8],
    metrics := { hit := 4, keyAdd := 1, costAdd := 60 } }
example : (exBusy.procClear.map fun c' => (c'.store.items, c'.store.em, c'.lfu.costs, c'.released, c'.cbs)) =
    some ([], [], [], [8, 3], [CB.evict 2 0 22 7]) := by rfl

end Stretto.C11

#print axioms Stretto.C11.clear_empties
#print axioms Stretto.C11.clear_eq_init
#print axioms Stretto.C11.nothing_live_after_clear
#print axioms Stretto.C11.drain_accounts
#print axioms Stretto.C11.clear_releases_requester
#print axioms Stretto.C11.clear_returns_only_when_served
#print axioms Stretto.C11.behaves_like_fresh
