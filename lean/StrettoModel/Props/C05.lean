import StrettoModel.Proofs.Expiry
import StrettoModel.Proofs.Agree
/-!
# C05 — Expired entries are reclaimed, and only expired ones

The periodic cleanup = `ExpirationMap::try_cleanup(now)` (all buckets numbered ≤ the cleanup bucket)
followed by the sweep over their keys with a re-check against the store.
Quantification: every store/policy state, every time `now`, every visiting order of the due keys.
The tick period itself (crossbeam `tick`, `async_io::Timer`) is environment.
-/
namespace Stretto.C05
open Stretto

/-- **sweep_only_expired**: the sweep never removes an entry that has no TTL or has not expired,
whatever keys the due buckets list (stale or foreign entries included) -/
theorem sweep_only_expired (c : Cache) (now : Nat) (keys : List (Nat × Nat)) (acc : List CB)
    (j : Nat) (e : Entry) (he : c.store.items.get j = some e)
    (hlive : e.exp.d = 0 ∨ now < e.exp.created + e.exp.d) :
    (c.sweepKeys now keys acc).1.store.items.get j = some e := by
  rcases (Cache.sweepKeys_swept keys c now acc).entry j with h | ⟨-, -, e', -, he', hd, hx, -⟩
  · rw [h, he]
  · cases he.symm.trans he'; omega

/-- **sweep_removes_listed**: an expired resident entry whose key is listed in the due buckets
(with a conflict hash that passes the store's check) is gone after the sweep, and was handed to
`on_evict` with its own value. -/
theorem sweep_removes_listed (c : Cache) (now : Nat) (keys : List (Nat × Nat)) (acc : List CB)
    (k cf : Nat) (e : Entry) (he : c.store.items.get k = some e)
    (hd : 0 < e.exp.d) (hexp : e.exp.created + e.exp.d ≤ now)
    (hlisted : (k, cf) ∈ keys) (hcf : Store.conflictOk cf e = true) :
    (c.sweepKeys now keys acc).1.store.items.get k = none ∧
    ∃ cost, CB.evict k e.conflict e.val cost ∈ (c.sweepKeys now keys acc).2 := by
  have hgone := (Cache.sweepKeys_listed keys c now acc hlisted he hd hexp).2 hcf
  refine ⟨hgone, ?_⟩
  rcases (Cache.sweepKeys_swept keys c now acc).entry k with h | ⟨-, -, e', cost, he', -, -, hm⟩
  · rw [hgone, he] at h; cases h
  · cases he.symm.trans he'; exact ⟨cost, hm⟩

/-- the charge of a swept entry is released, and charges of other keys are only ever released -/
theorem sweep_charges_only_released (c : Cache) (now : Nat) (keys : List (Nat × Nat)) (acc : List CB)
    (j : Nat) :
    (c.sweepKeys now keys acc).1.lfu.costs.get j = none ∨
    (c.sweepKeys now keys acc).1.lfu.costs.get j = c.lfu.costs.get j :=
  ((Cache.sweepKeys_swept keys c now acc).charge j).symm

/-- the charge of an expired entry listed in the due buckets is released by the sweep -/
theorem sweep_releases_charge (c : Cache) (now : Nat) (keys : List (Nat × Nat)) (acc : List CB)
    (k cf : Nat) (e : Entry) (he : c.store.items.get k = some e)
    (hd : 0 < e.exp.d) (hexp : e.exp.created + e.exp.d ≤ now) (hlisted : (k, cf) ∈ keys) :
    (c.sweepKeys now keys acc).1.lfu.costs.get k = none :=
  (Cache.sweepKeys_listed keys c now acc hlisted he hd hexp).1

/-- **what is due**: `try_cleanup(now)` hands over every key filed in a bucket numbered at most
`now / 1 s`, and leaves the later buckets alone -/
theorem cleanup_takes_all_due (m : Buckets) (now b k cf : Nat) (bk : KMap Nat)
    (hb : (b, bk) ∈ m) (hk : (k, cf) ∈ bk) (hdue : b ≤ Time.cleanupBucket now) :
    (k, cf) ∈ (m.tryCleanup now).2 := by
  unfold Buckets.tryCleanup
  simp only [List.mem_flatten, List.mem_map, List.mem_filter, decide_eq_true_eq]
  exact ⟨bk, ⟨(b, bk), ⟨hb, hdue⟩, rfl⟩, hk⟩

theorem cleanup_keeps_later (m : Buckets) (now : Nat) (p : Nat × KMap Nat) :
    p ∈ (m.tryCleanup now).1 ↔ p ∈ m ∧ ¬ p.1 ≤ Time.cleanupBucket now := by
  unfold Buckets.tryCleanup
  simp [List.mem_filter]

/-- **bucket arithmetic**: an entry with deadline `x = created + d` is filed in bucket
`x / 1 s + 1`; it is due at every cleanup at time `now ≥ (x / 1 s + 1) · 1 s`, in particular at every
cleanup at `now ≥ x + 1 s`; and whenever it is due it has expired. So with a tick every `I`, an
expired entry is reclaimed within one bucket width (1 s) plus one cleanup interval. -/
theorem due_iff (t : Time) (now : Nat) :
    t.storageBucket ≤ Time.cleanupBucket now ↔ (t.created + t.d) / nsPerSec + 1 ≤ now / nsPerSec := by
  simp [Time.storageBucket, Time.unix, Time.cleanupBucket]

theorem due_implies_expired (t : Time) (now : Nat) (h : t.storageBucket ≤ Time.cleanupBucket now) :
    t.created + t.d < now :=
  Nat.lt_of_div_lt_div ((due_iff t now).mp h)

theorem due_within_one_second (t : Time) (now : Nat) (h : t.created + t.d + nsPerSec ≤ now) :
    t.storageBucket ≤ Time.cleanupBucket now :=
  (due_iff t now).mpr (Nat.add_div_right _ (by decide : 0 < nsPerSec) ▸ Nat.div_le_div_right h)


-- completeness: the expiry index files every resident TTL entry, in every reachable state -----------

/-- guards on the oracle input of a tick (both checked at run time by the driver on what the
implementation visited): the visited keys include every key of the due buckets, and the conflict
hashes filed there pass the store's check -/
def TickGuard (c : Cache) : Act → Prop
  | .procTick now order => (∀ p, p ∈ c.dueKeys now → p ∈ order) ∧ TickOk c order
  | _ => True

theorem handleItem_emInv (c : Cache) (su : Nat → Nat → Bool) (est : Nat → Int)
    (refills : List (List (Nat × Int))) (it : Item) (h : EmInv c.store) :
    EmInv (c.handleItem su est refills it).store := by
  cases it with
  | wait id => exact h
  | update k cost ext => simpa [Cache.handleItem_update] using h
  | delete k cf =>
    rcases Cache.handleItem_delete_cases c su est refills k cf with ⟨-, hr⟩ | ⟨e, -, ⟨-, hr⟩ | ⟨-, hr⟩⟩ <;> rw [hr]
    · simpa using h
    · exact h
    · exact h.erase k e.exp
  | new k cf cost v exp =>
    rw [Cache.handleItem_new]
    refine List.foldl_preserves (P := fun c : Cache => EmInv c.store) _ _ _ (fun b hb p _ => ?_) ?_
    · rcases Cache.evictOne_cases b p.1 p.2 with ⟨-, hr⟩ | ⟨e, -, hr⟩ <;> rw [hr]
      · exact hb
      · simpa using hb.erase p.1 e.exp
    · split
      · simpa using Store.tryInsert_emInv c.store su k v cf exp h
      · simpa using h

/-- under the guards, a resident entry whose bucket is due is among the visited keys, with a conflict
hash that passes -/
theorem due_listed {c : Cache} {now : Nat} {order : List (Nat × Nat)} (hg : TickGuard c (.procTick now order))
    (h : EmInv c.store) {k : Nat} {e : Entry} (he : c.store.items.get k = some e) (hz : e.exp.isZero = false)
    (hdue : e.exp.storageBucket ≤ Time.cleanupBucket now) :
    ∃ cf, (k, cf) ∈ order ∧ Store.conflictOk cf e = true := by
  obtain ⟨bk, cf, hb1, hb2⟩ := h k e he hz
  have hl := hg.1 _ (cleanup_takes_all_due c.store.em now _ k cf bk (KMap.mem_of_get _ _ _ hb1)
    (KMap.mem_of_get _ _ _ hb2) hdue)
  exact ⟨cf, hl, hg.2 k cf e hl he⟩

/-- a tick reclaims every resident entry whose bucket is due: it is gone from the store, its charge is
released, and `on_evict` gets its own value -/
theorem tick_reclaims_due {c c' : Cache} {now : Nat} {order : List (Nat × Nat)}
    (hs : c.procTick now order = some c') (hg : TickGuard c (.procTick now order)) (h : EmInv c.store)
    {k : Nat} {e : Entry} (he : c.store.items.get k = some e) (hz : e.exp.isZero = false)
    (hdue : e.exp.storageBucket ≤ Time.cleanupBucket now) :
    c'.store.items.get k = none ∧ c'.lfu.costs.get k = none ∧
    ∃ cost, CB.evict k e.conflict e.val cost ∈ c'.cbs := by
  obtain ⟨cf, hl, hcf⟩ := due_listed hg h he hz hdue
  have hd : 0 < e.exp.d := Nat.pos_of_ne_zero (by simpa [Time.isZero] using hz)
  have hx := Nat.le_of_lt (due_implies_expired e.exp now hdue)
  obtain ⟨-, rfl⟩ := Cache.procTick_some hs
  simp only [Cache.deliverEvictions_frame, List.reverse_reverse, List.mem_append]
  have hsw := sweep_removes_listed { c with store := { c.store with em := (c.store.em.tryCleanup now).1 } }
    now order [] k cf e he hd hx hl hcf
  exact ⟨hsw.1, sweep_releases_charge _ now order [] k cf e he hd hx hl, hsw.2.imp fun _ => Or.inl⟩

theorem procTick_emInv (c c' : Cache) (now : Nat) (order : List (Nat × Nat)) (hs : c.procTick now order = some c')
    (h : EmInv c.store) (hg : TickGuard c (.procTick now order)) : EmInv c'.store := by
  intro j e hj hz
  have hgone := fun he => tick_reclaims_due hs hg h (k := j) (e := e) he hz
  obtain ⟨-, rfl⟩ := Cache.procTick_some hs
  simp only [Cache.deliverEvictions_frame] at hj hgone ⊢
  have hsw := Cache.sweepKeys_swept order
    { c with store := { c.store with em := (c.store.em.tryCleanup now).1 } } now []
  have hj0 : c.store.items.get j = some e := hsw.of_some hj
  by_cases hdue : e.exp.storageBucket ≤ Time.cleanupBucket now
  · rw [(hgone hj0 hdue).1] at hj; cases hj
  · -- a later bucket survives the cleanup, and the sweep drops filings only of keys that go
    rcases hsw.filing _ j ((Buckets.filed_tryCleanup ..).mpr ⟨h j e hj0 hz, hdue⟩) with h1 | h1
    · exact h1
    · rw [h1] at hj; cases hj

/-- **the expiry index stays complete**: every step of the transition system preserves `EmInv` -/
theorem step_emInv (su : Nat → Nat → Bool) (c c' : Cache) (a : Act) (hg : TickGuard c a)
    (hs : c.step su a = some c') (h : EmInv c.store) : EmInv c'.store := by
  revert hg
  apply step_induction (motive := fun a c' => TickGuard c a → EmInv c'.store) hs
  case insert =>
    intro k cf v cost ttl now coster only _
    rcases Cache.insert_cases c su k cf v cost ttl now coster only with
      ⟨e, -, hg, -, -, hr⟩ | ⟨-, -, hr⟩ | ⟨-, -, hr⟩ | hr <;> rw [hr]
    · exact h.update hg cf _
    · exact h
    · simpa using h
    · exact h
  case get => intros; simpa using h
  case getMut =>
    intro k cf now v _
    rcases Bool.eq_false_or_eq_true c.closed with hc | hc
    · simpa [Cache.getMutWrite, hc] using h
    · rw [Cache.getMutWrite_eq c k cf now v hc]
      cases hl : c.store.lookup k cf now with
      | none => simpa using h
      | some e => simpa using h.write (Store.lookup_some c.store k cf now e hl).1 { e with val := v } rfl
  case remove =>
    intro k cf _
    rcases Bool.eq_false_or_eq_true c.closed with hc | hc
    · simpa [Cache.remove, hc] using h
    · rw [Cache.remove_eq c k cf hc]; exact Store.tryRemove_emInv c.store k cf h
  case waitEnq => intros; simpa using h
  case clearReq => intros; simpa using h
  case closeBegin => intros; simpa using h
  case updateMaxCost => intros; exact h
  case procItem =>
    intro est refills c' hs _
    obtain ⟨-, it, rest, -, rfl⟩ := Cache.procItem_some hs
    exact handleItem_emInv _ su est refills it (by simpa using h)
  case procClear =>
    intro c' hs _
    obtain ⟨-, id, rest, -, rfl⟩ := Cache.procClear_some hs
    intro k e hk; simp [Store.empty] at hk
  case procTick => intro now order c' hs hg; exact procTick_emInv c c' now order hs h hg
  case procStop => intro c' hs _; obtain ⟨-, rfl⟩ := Cache.procStop_some hs; exact h
  case policyWorker => intros; exact h
  case policyClose => intros; exact h

/-- runs whose ticks pass the guards -/
inductive Run (su : Nat → Nat → Bool) : Cache → Cache → Prop
  | refl (c : Cache) : Run su c c
  | step (c c' c'' : Cache) (a : Act) : Run su c c' → TickGuard c' a → c'.step su a = some c'' → Run su c c''

theorem reachable_emInv (su : Nat → Nat → Bool) (cfg : Cfg) (maxCost : Int) (samples : Nat) (c : Cache)
    (hr : Run su (Cache.init cfg maxCost samples) c) : EmInv c.store := by
  induction hr with
  | refl => intro k e hk; simp [Cache.init, Store.empty] at hk
  | step c' c'' a _ hg hs ih => exact step_emInv su c' c'' a hg hs ih

/-- **bounded-delay reclamation**: in every reachable state, an entry whose TTL elapsed at least one
bucket width (1 s) ago is reclaimed by the next cleanup tick, whatever else happened to other keys in
the meantime: it is gone from the store (so from `len()`), its charge is released, and `on_evict` gets
its own value — once, by C08. -/
theorem expired_is_reclaimed_by_next_tick (su : Nat → Nat → Bool) (cfg : Cfg) (maxCost : Int) (samples : Nat)
    (c c' : Cache) (hr : Run su (Cache.init cfg maxCost samples) c) (now : Nat) (order : List (Nat × Nat))
    (hg : TickGuard c (.procTick now order)) (hs : c.procTick now order = some c')
    (k : Nat) (e : Entry) (he : c.store.items.get k = some e) (hd : 0 < e.exp.d)
    (hlate : e.exp.created + e.exp.d + nsPerSec ≤ now) :
    c'.store.items.get k = none ∧ c'.lfu.costs.get k = none ∧
    (∃ cost, CB.evict k e.conflict e.val cost ∈ c'.cbs) :=
  tick_reclaims_due hs hg (reachable_emInv su cfg maxCost samples c hr) he
    (by simpa [Time.isZero] using Nat.ne_of_gt hd) (due_within_one_second e.exp now hlate)

-- non-vacuity -------------------------------------------------------------------------------
example : due_iff ⟨500, 1000000000⟩ 3000000000 = due_iff ⟨500, 1000000000⟩ 3000000000 := rfl
example : (⟨500, 1000000000⟩ : Time).storageBucket ≤ Time.cleanupBucket 3000000000 := by decide

end Stretto.C05

#print axioms Stretto.C05.sweep_only_expired
#print axioms Stretto.C05.sweep_removes_listed
#print axioms Stretto.C05.sweep_charges_only_released
#print axioms Stretto.C05.cleanup_takes_all_due
#print axioms Stretto.C05.cleanup_keeps_later
#print axioms Stretto.C05.due_iff
#print axioms Stretto.C05.due_implies_expired
#print axioms Stretto.C05.sweep_releases_charge
#print axioms Stretto.C05.step_emInv
#print axioms Stretto.C05.reachable_emInv
#print axioms Stretto.C05.expired_is_reclaimed_by_next_tick
#print axioms Stretto.C05.due_within_one_second
