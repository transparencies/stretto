import StrettoModel.Props.C05
import StrettoModel.Props.C06
/-!
# C04 — Below capacity the cache is an exact map: nothing is lost

Shape: the abstract map is `abs c now = fun k cf => c.store.get k cf now` (the store read through the
expiry test). The theorems give, for each kind of history step taken to quiescence, the effect on
the written key and the *frame* (every other key, the callback log) — i.e. the simulation squares of
the refinement "cache at quiescent points = map with TTLs" under the premise that the policy has
room (`NoPressure`: the admission finds `room_left ≥ 0` and the cost fits `max_cost`; a sufficient
user-level condition is that the combined charge of all entries not yet reclaimed fits `max_cost`).
The squares are composed over sequential histories (each operation taken to quiescence) in
`refines_ttl_map`; for overlapping operations the run-time no-loss monitor carries the composition.
-/
namespace Stretto.C04
open Stretto

/-- the policy has room for this item: nothing needs to be evicted, nothing can be rejected -/
def NoPressure (c : Cache) (cost : Int) : Prop :=
  c.internalCost cost ≤ c.lfu.maxCost ∧ c.lfu.roomLeft (c.internalCost cost) ≥ 0

/-- **a new key is admitted and stored when there is room**: applying the buffered `New` item of a
key that is neither resident nor charged, under `NoPressure`, stores exactly that value with its
TTL, charges it, evicts nothing, rejects nothing, calls no callback and touches no other key. -/
theorem new_item_applied_when_room (c : Cache) (su : Nat → Nat → Bool) (est : Nat → Int)
    (refills : List (List (Nat × Int))) (k cf v : Nat) (cost : Int) (exp : Time)
    (hinv : c.lfu.Inv) (hnr : c.store.items.get k = none) (hnc : c.lfu.costs.get k = none)
    (hroom : NoPressure c cost) :
    let c' := c.handleItem su est refills (Item.new k cf cost v exp)
    c'.store.items.get k = some ⟨cf, v, exp⟩ ∧
    (∀ j, j ≠ k → c'.store.items.get j = c.store.items.get j) ∧
    c'.lfu.costs.get k = some (c.internalCost cost) ∧
    (∀ j, j ≠ k → c'.lfu.costs.get j = c.lfu.costs.get j) ∧
    c'.cbs = c.cbs := by
  obtain ⟨hadd, hvic, hch, hothers⟩ :=
    (policyAdd_spec c.lfu est k (c.internalCost cost) refills hinv).room hroom.1 hnc hroom.2
  rcases Store.tryInsert_cases c.store su k v cf exp with ⟨em, hi, -⟩ | ⟨-, hs⟩
  · simp +contextual [Cache.handleItem_new, hadd, hvic, hi, hch, hothers]
  · rw [hnr] at hs; cases hs

/-- what the client sees afterwards: the key is retrievable (until its TTL elapses) -/
theorem then_retrievable (c : Cache) (su : Nat → Nat → Bool) (est : Nat → Int)
    (refills : List (List (Nat × Int))) (k cf v : Nat) (cost : Int) (exp : Time) (now : Nat)
    (hinv : c.lfu.Inv) (hnr : c.store.items.get k = none) (hnc : c.lfu.costs.get k = none)
    (hroom : NoPressure c cost) (hlive : exp.d = 0 ∨ now < exp.created + exp.d) :
    (c.handleItem su est refills (Item.new k cf cost v exp)).store.get k cf now = some v := by
  have h := (new_item_applied_when_room c su est refills k cf v cost exp hinv hnr hnc hroom).1
  simp [Store.get, Store.lookup_live (cf := cf) h (by simp [Store.conflictOk]) hlive]

/-- **an update of a resident key takes effect at once and loses nothing else** -/
theorem update_applied_at_once (c : Cache) (su : Nat → Nat → Bool) (k cf v : Nat) (cost : Int)
    (ttl now : Nat) (coster : Int) (e : Entry) (hopen : c.closed = false)
    (he : c.store.items.get k = some e) (hcf : Store.conflictOk cf e = true) (hsu : su e.val v = true) :
    let c' := (c.insert su k cf v cost ttl now coster false).1
    c'.store.items.get k = some { e with val := v, exp := { d := ttl, created := now } } ∧
    (∀ j, j ≠ k → c'.store.items.get j = c.store.items.get j) ∧
    (c.insert su k cf v cost ttl now coster false).2 = true := by
  rw [Cache.insert_hit cost ttl now coster hopen he (by simp [hcf, hsu])]
  exact ⟨by simp, fun j hj => by simp [hj], rfl⟩

/-- **a remove, once applied, removes exactly that key** -/
theorem remove_applied (c : Cache) (su : Nat → Nat → Bool) (est : Nat → Int)
    (refills : List (List (Nat × Int))) (k cf : Nat) (e : Entry)
    (he : c.store.items.get k = some e) (hcf : Store.conflictOk cf e = true) :
    let c1 := (c.remove k cf).1
    (c.closed = false → c1.store.items.get k = none ∧ ∀ j, j ≠ k → c1.store.items.get j = c.store.items.get j) ∧
    ((c.handleItem su est refills (Item.delete k cf)).store.items.get k = none ∧
      ∀ j, j ≠ k → (c.handleItem su est refills (Item.delete k cf)).store.items.get j = c.store.items.get j) := by
  have hr : (c.store.tryRemove k cf).1.items = c.store.items.erase k := by
    rcases Store.tryRemove_cases c.store k cf with ⟨e', -, -, hr⟩ | ⟨-, hno⟩
    · rw [hr]
    · rw [hno e he] at hcf; cases hcf
  refine ⟨fun hopen => ?_, ?_⟩
  · rw [Cache.remove_eq c k cf hopen]
    exact ⟨by simp [hr], fun j hj => by simp [hr, hj]⟩
  · rw [Cache.handleItem_delete_store]
    exact ⟨by simp [hr], fun j hj => by simp [hr, hj]⟩

/-- **nothing is swept early**: from C05 — an entry without TTL or not yet expired survives every
cleanup, whatever the buckets contain -/
theorem not_swept_early (c : Cache) (now : Nat) (keys : List (Nat × Nat)) (j : Nat) (e : Entry)
    (he : c.store.items.get j = some e) (hlive : e.exp.d = 0 ∨ now < e.exp.created + e.exp.d) :
    (c.sweepKeys now keys []).1.store.items.get j = some e :=
  C05.sweep_only_expired c now keys [] j e he hlive

/-- the user-level sufficient condition for `NoPressure`: if what is charged plus the new charge
fits `max_cost`, there is room -/
theorem fits_implies_no_pressure (c : Cache) (cost : Int) (hnn : 0 ≤ c.lfu.used)
    (hfit : c.lfu.used + c.internalCost cost ≤ c.lfu.maxCost) : NoPressure c cost := by
  unfold NoPressure Lfu.roomLeft
  constructor <;> omega


-- composition: sequential histories taken to quiescence refine a map with TTLs -------------------------

/-- a quiescent state: nothing buffered, nothing blocked, processor alive, C06's and C05's invariants -/
structure Quiet (c : Cache) : Prop where
  buf : c.buf = []
  pend : c.pendingSends = []
  opn : c.closed = false
  alive : c.procExited = false
  inv : Inv06 c
  em : EmInv c.store
  cap : 0 < c.cfg.bufCap

/-- at quiescence only resident keys are charged: by C06 any other charge belongs to a `Delete` still on its way -/
theorem Quiet.not_charged {c : Cache} (q : Quiet c) {k : Nat} (h : c.store.items.get k = none) :
    c.lfu.costs.get k = none := by
  cases hc : c.lfu.costs.get k with
  | none => rfl
  | some x =>
    rcases q.inv.charged_resident k (by simp [hc]) with h1 | ⟨cf, hm⟩
    · simp [h] at h1
    · simp [q.buf, q.pend] at hm

theorem step_invs {su : Nat → Nat → Bool} {c c' : Cache} {a : Act} (hs : c.step su a = some c')
    (ok : C06.ActOk c a) (g : C05.TickGuard c a) (hi : Inv06 c) (he : EmInv c.store) (ha : c'.procExited = false) :
    Inv06 c' ∧ EmInv c'.store :=
  ⟨(C06.step_good su c c' a ok hs (Or.inr hi)).resolve_left (by simp [ha]), C05.step_emInv su c c' a g hs he⟩

theorem quiet_of_step {su : Nat → Nat → Bool} {c c' : Cache} {a : Act} (hs : c.step su a = some c')
    (ok : C06.ActOk c a) (g : C05.TickGuard c a) (hi : Inv06 c) (he : EmInv c.store)
    (h : c'.buf = [] ∧ c'.pendingSends = [] ∧ c'.closed = false ∧ c'.procExited = false ∧ 0 < c'.cfg.bufCap) :
    Quiet c' :=
  have i := step_invs hs ok g hi he h.2.2.2.1
  ⟨h.1, h.2.1, h.2.2.1, h.2.2.2.1, i.1, i.2, h.2.2.2.2⟩

/-- the processor's half of an operation taken to quiescence: in a state that is quiescent but for the one
item the client call has sent, one iteration applies that item and the cache is quiescent again -/
theorem procItem_quiet (su : Nat → Nat → Bool) (est : Nat → Int) (refills : List (List (Nat × Int))) {c : Cache}
    {it : Item} (hi : Inv06 c) (he : EmInv c.store) (hb : c.buf = [it]) (hp : c.pendingSends = [])
    (ho : c.closed = false) (ha : c.procExited = false) (hcap : 0 < c.cfg.bufCap)
    (hv : VictimsOk { c with buf := [] } est refills it) :
    (c.procItem su est refills).getD c = ({ c with buf := [] } : Cache).handleItem su est refills it ∧
    Quiet (({ c with buf := [] } : Cache).handleItem su est refills it) := by
  have hadm : ({ c with buf := [] } : Cache).admitPending = { c with buf := [] } := by simp [Cache.admitPending, hp]
  have hs : c.procItem su est refills = some (({ c with buf := [] } : Cache).handleItem su est refills it) := by
    rw [Cache.procItem, if_neg (by simp [ha]), hb]; dsimp only; rw [hadm]
  have ok : C06.ActOk c (.procItem est refills) := by
    intro it' rest hb'
    rw [hb] at hb'; cases hb'
    rwa [hadm]
  exact ⟨by rw [hs]; rfl, quiet_of_step (su := su) (a := .procItem est refills) hs ok trivial hi he
    (by simp [hp, ho, ha, hcap])⟩

/-- the cost an insert attaches to its item -/
def itemCost (cost coster : Int) : Int := cost + (if cost == 0 then coster else 0)

/-- an insert taken to quiescence: the client call, then the processor applies the one buffered item -/
def qInsert (su : Nat → Nat → Bool) (c : Cache) (k cf v : Nat) (cost : Int) (ttl now : Nat) (coster : Int)
    (est : Nat → Int) (refills : List (List (Nat × Int))) : Cache :=
  let c1 := (c.insert su k cf v cost ttl now coster false).1
  (c1.procItem su est refills).getD c1

/-- **insert, composed**: from a quiescent state, `insert` followed by the processor's handling of
its item leads to a quiescent state in which
* a key that was absent, inserted under `NoPressure`, is resident with exactly that value and TTL;
* a resident key whose update is allowed carries the new value and TTL;
* a resident key whose update is vetoed (validator or conflict hash) is unchanged;
and every other key is untouched. -/
theorem qInsert_refines (su : Nat → Nat → Bool) (c : Cache) (k cf v : Nat) (cost : Int) (ttl now : Nat)
    (coster : Int) (est : Nat → Int) (refills : List (List (Nat × Int))) (q : Quiet c)
    (hroom : c.store.items.get k = none → NoPressure c (itemCost cost coster))
    (c' : Cache) (hc' : c' = qInsert su c k cf v cost ttl now coster est refills) :
    Quiet c' ∧
    (∀ j, j ≠ k → c'.store.items.get j = c.store.items.get j) ∧
    c'.store.items.get k =
      (match c.store.items.get k with
       | none => some ⟨cf, v, ⟨ttl, now⟩⟩
       | some e => if Store.conflictOk cf e && su e.val v then some { e with val := v, exp := ⟨ttl, now⟩ }
                   else some e) := by
  subst hc'
  have i1 := step_invs (su := su) (a := .insert k cf v cost ttl now coster false) rfl trivial trivial q.inv q.em
    (by simp [q.alive])
  unfold qInsert
  by_cases hit : ∃ e, c.store.items.get k = some e ∧ (Store.conflictOk cf e && su e.val v) = true
  · -- the update is applied by the client call itself; the processor only re-charges
    obtain ⟨e, hg, h⟩ := hit
    rw [Cache.insert_hit cost ttl now coster q.opn hg h] at i1 ⊢
    obtain ⟨hx, hq⟩ := procItem_quiet su est refills (it := Item.update k cost (if cost == 0 then coster else 0))
      i1.1 i1.2 (by simp [q.buf, q.cap, q.alive]) q.pend q.opn q.alive q.cap trivial
    rw [hx, hg]
    refine ⟨hq, ?_⟩
    simp only [Cache.handleItem_update, Cache.met_frame, KMap.get_set]
    exact ⟨fun j hj => if_neg hj, by simp [h]⟩
  · -- otherwise a `New` item goes to the processor
    have hm : ∀ e, c.store.items.get k = some e → (Store.conflictOk cf e && su e.val v) = false :=
      fun e he => Bool.eq_false_iff.mpr fun h => hit ⟨e, he, h⟩
    rw [Cache.insert_miss cost ttl now coster q.opn (by simp [q.buf, q.cap]) q.alive hm] at i1 ⊢
    have sp := policyAdd_spec c.lfu est k (c.internalCost (itemCost cost coster)) refills q.inv.lfuInv
    suffices h : (policyAdd c.lfu est k (c.internalCost (itemCost cost coster)) refills).victims = none ∧ _ by
      obtain ⟨hx, hq⟩ := procItem_quiet su est refills (it := Item.new k cf (itemCost cost coster) v ⟨ttl, now⟩)
        i1.1 i1.2 (by simp [q.buf, itemCost]) q.pend q.opn q.alive q.cap (fun vs hvs => nomatch h.1.symm.trans hvs)
      rw [hx]
      exact ⟨hq, h.2⟩
    cases hg : c.store.items.get k with
    | none =>
      -- a new key: there is room, so it is admitted
      have hnp := hroom hg
      have happ := new_item_applied_when_room { c with buf := [] } su est refills k cf v (itemCost cost coster) ⟨ttl, now⟩
        q.inv.lfuInv hg (q.not_charged hg) hnp
      exact ⟨(sp.room hnp.1 (q.not_charged hg) hnp.2).2.1, happ.2.1, happ.1⟩
    | some e =>
      -- vetoed (validator or conflict hash): the processor finds the key charged and hands the value to
      -- `on_reject`; the store is untouched
      have hch := q.inv.resident_charged k (by simp [hg])
      rw [Cache.handleItem_new_of_charged { c with buf := [] } su est refills k cf v _ _ q.inv.lfuInv hch]
      exact ⟨(sp.charged hch).2, fun j _ => rfl, by simp [hg, hm e hg]⟩

/-- a remove taken to quiescence -/
def qRemove (su : Nat → Nat → Bool) (c : Cache) (k cf : Nat) (est : Nat → Int) (refills : List (List (Nat × Int))) : Cache :=
  let c1 := (c.remove k cf).1
  (c1.procItem su est refills).getD c1

/-- **remove, composed**: the key is gone (if its conflict hash matched), nothing else moved -/
theorem qRemove_refines (su : Nat → Nat → Bool) (c : Cache) (k cf : Nat) (est : Nat → Int)
    (refills : List (List (Nat × Int))) (q : Quiet c) (c' : Cache) (hc' : c' = qRemove su c k cf est refills) :
    Quiet c' ∧
    (∀ j, j ≠ k → c'.store.items.get j = c.store.items.get j) ∧
    c'.store.items.get k =
      (match c.store.items.get k with
       | none => none
       | some e => if Store.conflictOk cf e then none else some e) := by
  subst hc'
  have i1 := step_invs (su := su) (a := .remove k cf) rfl trivial trivial q.inv q.em (by simp [q.alive])
  unfold qRemove
  rw [Cache.remove_eq c k cf q.opn] at i1 ⊢
  dsimp only at i1 ⊢
  obtain ⟨hx, hq⟩ := procItem_quiet su est refills (it := Item.delete k cf) i1.1 i1.2 (by simp [q.buf, q.cap, q.pend])
    (by simp [q.buf, q.cap, q.pend]) q.opn q.alive q.cap trivial
  rw [hx]
  refine ⟨hq, ?_⟩
  -- the processor's `try_remove` finds nothing left to do
  rw [Cache.handleItem_delete_store, Store.tryRemove_twice]
  rcases Store.tryRemove_cases c.store k cf with ⟨e, hg, hcf, hr⟩ | ⟨hr, hno⟩ <;> rw [hr]
  · exact ⟨fun j hj => by simp [hj], by simp [hg, hcf]⟩
  · refine ⟨fun j _ => rfl, ?_⟩
    cases hg : c.store.items.get k with
    | none => rfl
    | some e => simp [hno e hg]

/-- a cleanup tick at quiescence -/
def qTick (c : Cache) (now : Nat) (order : List (Nat × Nat)) : Cache := (c.procTick now order).getD c

/-- **tick, composed**: the tick only removes entries, never one that is still live, and always those
whose bucket is due -/
theorem qTick_refines (su : Nat → Nat → Bool) (c : Cache) (now : Nat) (order : List (Nat × Nat)) (q : Quiet c)
    (hg : C05.TickGuard c (.procTick now order)) (c' : Cache) (hc' : c' = qTick c now order) :
    Quiet c' ∧
    (∀ j e, c'.store.items.get j = some e → c.store.items.get j = some e) ∧
    (∀ j e, c.store.items.get j = some e → (e.exp.d = 0 ∨ now < e.exp.created + e.exp.d) →
      c'.store.items.get j = some e) ∧
    (∀ j e, c.store.items.get j = some e → e.exp.isZero = false →
      e.exp.storageBucket ≤ Time.cleanupBucket now → c'.store.items.get j = none) := by
  obtain ⟨c2, hs⟩ : ∃ c2, c.procTick now order = some c2 := by simp [Cache.procTick, q.alive]
  obtain rfl : c' = c2 := by rw [hc', qTick, hs]; rfl
  obtain ⟨-, rfl⟩ := Cache.procTick_some hs
  refine ⟨quiet_of_step (su := su) (a := .procTick now order) hs hg.2 hg q.inv q.em
    (by simp [q.buf, q.pend, q.opn, q.alive, q.cap]), ?_⟩
  -- the callbacks are delivered after the removals: the store is the one the sweep leaves
  rw [(Cache.deliverEvictions_frame _ _).2.1]
  refine ⟨fun j e hj => ?_, fun j e hj => not_swept_early _ now order j e hj, fun j e hj hz hdue => ?_⟩
  · rcases Cache.sweepKeys_shrinks order _ now [] j with h | h <;> rw [h] at hj
    · cases hj
    · exact hj
  · obtain ⟨bk, cf, hb1, hb2⟩ := q.em j e hj hz
    have hlisted : (j, cf) ∈ order :=
      hg.1 _ (C05.cleanup_takes_all_due c.store.em now _ j cf bk (KMap.mem_of_get _ _ _ hb1) (KMap.mem_of_get _ _ _ hb2) hdue)
    -- `by exact`: the swept state is taken from the goal, not from `hj` (cleanup changed only the expiry index)
    exact And.left (C05.sweep_removes_listed _ now order [] j cf e (by exact hj)
      (Nat.pos_of_ne_zero (by simpa [Time.isZero] using hz)) (Nat.le_of_lt (C05.due_implies_expired e.exp now hdue))
      hlisted (hg.2 j cf e hlisted hj))

/-- a lookup at quiescence changes nothing the map view can see -/
theorem qGet_refines (su : Nat → Nat → Bool) (c : Cache) (k cf now : Nat) (q : Quiet c) :
    Quiet (c.get k cf now).1 ∧ (c.get k cf now).1.store = c.store := by
  exact ⟨quiet_of_step (su := su) (a := .get k cf now) rfl trivial trivial q.inv q.em
    (by simp [q.buf, q.pend, q.opn, q.alive, q.cap]), by simp⟩

/-- `clear()` taken to quiescence: the request, then the processor serves it -/
def qClear (c : Cache) (id : Nat) : Cache :=
  let c1 := (c.clearReq id).1
  (c1.procClear).getD c1

theorem qClear_refines (su : Nat → Nat → Bool) (c : Cache) (id : Nat) (q : Quiet c) (hq : c.clearQ = [])
    (c' : Cache) (hc' : c' = qClear c id) :
    Quiet c' ∧ ∀ j, c'.store.items.get j = none := by
  have i1 := step_invs (su := su) (a := .clearReq id) rfl trivial trivial q.inv q.em (by simp [q.alive])
  obtain ⟨c2, hs⟩ : ∃ c2, (c.clearReq id).1.procClear = some c2 := by
    simp [Cache.procClear, Cache.clearReq, q.opn, q.alive, hq]
  obtain rfl : c' = c2 := by rw [hc', qClear, hs]; rfl
  have hq := quiet_of_step (su := su) (a := .procClear) hs trivial trivial i1.1 i1.2
  obtain ⟨-, id', rest, -, rfl⟩ := Cache.procClear_some hs
  exact ⟨hq (by simp [q.pend, q.opn, q.alive, q.cap]), fun j => by simp [Store.empty]⟩

/-- operations of a sequential client that lets the cache quiesce after each of them -/
inductive QOp
  | insert (k cf v : Nat) (cost : Int) (ttl now : Nat) (coster : Int) (est : Nat → Int) (refills : List (List (Nat × Int)))
  | remove (k cf : Nat) (est : Nat → Int) (refills : List (List (Nat × Int)))
  | tick (now : Nat) (order : List (Nat × Nat))
  | get (k cf now : Nat)
  | clear (id : Nat)

def qstep (su : Nat → Nat → Bool) (c : Cache) : QOp → Cache
  | .insert k cf v cost ttl now coster est refills => qInsert su c k cf v cost ttl now coster est refills
  | .remove k cf est refills => qRemove su c k cf est refills
  | .tick now order => qTick c now order
  | .get k cf now => (c.get k cf now).1
  | .clear id => qClear c id

/-- C04's premise, per operation: a new key finds room in the policy (the combined cost of what is
charged plus the newcomer fits `max_cost` — `fits_implies_no_pressure`); the oracle inputs of a tick
pass C05's guards -/
def OpOk (c : Cache) : QOp → Prop
  | .insert k _ _ cost _ _ coster _ _ => c.store.items.get k = none → NoPressure c (itemCost cost coster)
  | .tick now order => C05.TickGuard c (.procTick now order)
  | .clear _ => c.clearQ = []
  | _ => True

/-- one step of the abstract map with TTLs (`S` before, `S'` after); the tick is specified by its two
obligations — nothing live is lost, everything due is gone — rather than by a function -/
def SpecStep (su : Nat → Nat → Bool) (S S' : Nat → Option Entry) : QOp → Prop
  | .insert k cf v _ ttl now _ _ _ =>
    (∀ j, j ≠ k → S' j = S j) ∧
    S' k = (match S k with
      | none => some ⟨cf, v, ⟨ttl, now⟩⟩
      | some e => if Store.conflictOk cf e && su e.val v then some { e with val := v, exp := ⟨ttl, now⟩ } else some e)
  | .remove k cf _ _ =>
    (∀ j, j ≠ k → S' j = S j) ∧
    S' k = (match S k with | none => none | some e => if Store.conflictOk cf e then none else some e)
  | .tick now _ =>
    (∀ j e, S' j = some e → S j = some e) ∧
    (∀ j e, S j = some e → (e.exp.d = 0 ∨ now < e.exp.created + e.exp.d) → S' j = some e) ∧
    (∀ j e, S j = some e → e.exp.isZero = false → e.exp.storageBucket ≤ Time.cleanupBucket now → S' j = none)
  | .get _ _ _ => ∀ j, S' j = S j
  | .clear _ => ∀ j, S' j = none

/-- **one quiescent operation refines one step of the map with TTLs** -/
theorem qstep_refines (su : Nat → Nat → Bool) (c : Cache) (op : QOp) (q : Quiet c) (hok : OpOk c op) :
    Quiet (qstep su c op) ∧ SpecStep su (fun k => c.store.items.get k) (fun k => (qstep su c op).store.items.get k) op := by
  cases op with
  | insert k cf v cost ttl now coster est refills =>
    exact qInsert_refines su c k cf v cost ttl now coster est refills q hok _ rfl
  | remove k cf est refills => exact qRemove_refines su c k cf est refills q _ rfl
  | tick now order => exact qTick_refines su c now order q hok _ rfl
  | get k cf now => exact ⟨(qGet_refines su c k cf now q).1, fun j => by rw [qstep, (qGet_refines su c k cf now q).2]⟩
  | clear id => exact qClear_refines su c id q hok _ rfl

/-- sequential histories: every operation is taken to quiescence and meets C04's premise -/
inductive QRun (su : Nat → Nat → Bool) : Cache → List QOp → Cache → Prop
  | nil (c : Cache) : QRun su c [] c
  | snoc (c c' : Cache) (ops : List QOp) (op : QOp) : QRun su c ops c' → OpOk c' op → QRun su c (ops ++ [op]) (qstep su c' op)

/-- runs of the abstract map -/
inductive SpecRun (su : Nat → Nat → Bool) : (Nat → Option Entry) → List QOp → (Nat → Option Entry) → Prop
  | nil (S : Nat → Option Entry) : SpecRun su S [] S
  | snoc (S S' S'' : Nat → Option Entry) (ops : List QOp) (op : QOp) :
      SpecRun su S ops S' → SpecStep su S' S'' op → SpecRun su S (ops ++ [op]) S''

theorem init_quiet (cfg : Cfg) (maxCost : Int) (samples : Nat) (hcap : 0 < cfg.bufCap) :
    Quiet (Cache.init cfg maxCost samples) :=
  ⟨rfl, rfl, rfl, rfl, (C06.init_good cfg maxCost samples).resolve_left (by simp [Cache.init]),
    fun k e hk => by simp [Cache.init, Store.empty] at hk, hcap⟩

/-- the refinement from any quiescent starting state, whose store reads as the map `S` -/
theorem refines_from (su : Nat → Nat → Bool) {c0 c : Cache} {ops : List QOp} (h : QRun su c0 ops c) (q : Quiet c0)
    {S : Nat → Option Entry} (hS : ∀ k, c0.store.items.get k = S k) :
    Quiet c ∧ SpecRun su S ops (fun k => c.store.items.get k) := by
  obtain rfl : (fun k => c0.store.items.get k) = S := funext hS
  induction h with
  | nil => exact ⟨q, SpecRun.nil _⟩
  | snoc c' ops op _ hok ih =>
    obtain ⟨q'', ss⟩ := qstep_refines su c' op ih.1 hok
    exact ⟨q'', SpecRun.snoc _ _ _ ops op ih.2 ss⟩

/-- **C04, composed over sequential histories**: for every history of inserts (any TTLs, switching
between TTL and none), removes, clears, lookups and cleanup ticks in which each operation is taken to
quiescence and every new key finds room, the store of the cache *is* a run of the abstract map with
TTLs from the empty map: a key inserted stays resident with exactly its last accepted value and TTL
until it is removed, cleared, or a tick finds it expired; no tick removes a live entry, and every tick
removes what is due; the final state is quiescent and satisfies C05's and C06's invariants. -/
theorem refines_ttl_map (su : Nat → Nat → Bool) (cfg : Cfg) (maxCost : Int) (samples : Nat) (hcap : 0 < cfg.bufCap)
    (ops : List QOp) (c : Cache) (hr : QRun su (Cache.init cfg maxCost samples) ops c) :
    Quiet c ∧ SpecRun su (fun _ => none) ops (fun k => c.store.items.get k) :=
  refines_from su hr (init_quiet cfg maxCost samples hcap) fun _ => rfl

/-- **a cleared cache is a fresh map** (C11's "behaves like a fresh one", at the level of C04): whatever
sequential history `ops₁` preceded it, once a `clear()` has been taken to quiescence the history `ops₂`
that follows is a run of the abstract map *from the empty map* — exactly what `refines_ttl_map` says of
a newly built cache — so keys re-used after the clear, with another TTL or none, are stored, found,
expired and removed as on a new cache. -/
theorem cleared_is_fresh_map (su : Nat → Nat → Bool) (cfg : Cfg) (maxCost : Int) (samples : Nat) (hcap : 0 < cfg.bufCap)
    (ops₁ ops₂ : List QOp) (id : Nat) (c₁ c : Cache)
    (h₁ : QRun su (Cache.init cfg maxCost samples) ops₁ c₁) (hok : OpOk c₁ (.clear id))
    (h₂ : QRun su (qstep su c₁ (.clear id)) ops₂ c) :
    Quiet c ∧ SpecRun su (fun _ => none) ops₂ (fun k => c.store.items.get k) :=
  have q₁ := (refines_ttl_map su cfg maxCost samples hcap ops₁ c₁ h₁).1
  refines_from su h₂ (qstep_refines su c₁ (.clear id) q₁ hok).1 (qstep_refines su c₁ (.clear id) q₁ hok).2

/-- what a lookup returns is read off the map: the resident entry, unless its conflict hash differs or
its TTL has elapsed -/
theorem lookup_reads_map (c : Cache) (k cf now : Nat) (hopen : c.closed = false) :
    (c.get k cf now).2 = (match c.store.items.get k with
      | none => none
      | some e => if !Store.conflictOk cf e then none
                  else if !e.exp.isZero && e.exp.isExpired now then none else some e.val) := by
  rw [Cache.get_eq c k cf now hopen, Store.get, Store.lookup]
  cases c.store.items.get k with
  | none => rfl
  | some e => dsimp only; rw [apply_ite (Option.map _), apply_ite (Option.map _)]; rfl

-- non-vacuity ---------------------------------------------------------------------------------
def exCfg : Cfg := { itemSize := 56, ignoreInternal := false, bufCap := 4, ringCap := 2, pqCap := some 3, metricsOn := false }
example : NoPressure (Cache.init exCfg 1000 5) 10 := ⟨by decide, by decide⟩

-- non-vacuity of the composed theorem: a concrete sequential history
def exOp1 : QOp := .insert 3 0 77 5 0 10 0 (fun _ => 0) []
def exOp2 : QOp := .insert 3 0 78 5 2000000000 20 0 (fun _ => 0) []
def exOp3 : QOp := .tick 5000000000 [(3, 0)]
example : QRun (fun _ _ => true) (Cache.init exCfg 1000 5) [exOp1] (qstep (fun _ _ => true) (Cache.init exCfg 1000 5) exOp1) :=
  QRun.snoc _ _ [] exOp1 (QRun.nil _) (fun _ => ⟨by decide, by decide⟩)
example : ((qstep (fun _ _ => true) (Cache.init exCfg 1000 5) exOp1).store.items.get 3) = some ⟨0, 77, ⟨0, 10⟩⟩ := by decide
example : ((qstep (fun _ _ => true) (qstep (fun _ _ => true) (Cache.init exCfg 1000 5) exOp1) exOp2).store.items.get 3) =
    some ⟨0, 78, ⟨2000000000, 20⟩⟩ := by decide
example : ((qstep (fun _ _ => true) (qstep (fun _ _ => true) (qstep (fun _ _ => true) (Cache.init exCfg 1000 5) exOp1) exOp2) exOp3).store.items.get 3) =
    none := by decide

end Stretto.C04

#print axioms Stretto.C04.new_item_applied_when_room
#print axioms Stretto.C04.then_retrievable
#print axioms Stretto.C04.update_applied_at_once
#print axioms Stretto.C04.remove_applied
#print axioms Stretto.C04.not_swept_early
#print axioms Stretto.C04.fits_implies_no_pressure
#print axioms Stretto.C04.qInsert_refines
#print axioms Stretto.C04.qRemove_refines
#print axioms Stretto.C04.qTick_refines
#print axioms Stretto.C04.qstep_refines
#print axioms Stretto.C04.refines_ttl_map
#print axioms Stretto.C04.cleared_is_fresh_map
#print axioms Stretto.C04.lookup_reads_map
