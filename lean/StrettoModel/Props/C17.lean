import StrettoModel.Proofs.Metrics
import StrettoModel.Proofs.Step
import StrettoModel.Model.Histogram
/-!
# C17 — Metrics obey conservation laws

The eleven counters are `u64` totals (the stripes summed); every law is therefore stated modulo
2^64, which is plain equality whenever the true quantities fit in a `u64`. Quantification: every run
of the transition system of `Model/Lts.lean` (any interleaving of client calls with the processor's
and the policy worker's steps), every validator, every oracle input.
-/
namespace Stretto.C17
open Stretto

/-- nothing charged and every counter at zero -/
theorem minv_of_empty {c : Cache} (hc : c.lfu.costs = []) (hu : c.lfu.used = 0) (hm : c.metrics = {}) : MInv c := by
  simp [MInv, MInvCore, Cache.mcore, hc, hu, hm, KMap.wf_nil, KMap.total]

theorem init_minv (cfg : Cfg) (maxCost : Int) (samples : Nat) : MInv (Cache.init cfg maxCost samples) :=
  minv_of_empty rfl rfl rfl

/-- the victims of an admission leave the store, not the policy -/
theorem foldl_evictOne_minv (vs : List (Nat × Int)) {c : Cache} (hi : MInv c) : MInv (vs.foldl Cache.evictOne c) :=
  minv_transfer (by simp [Cache.mcore]) hi

/-- `handle_item` keeps the conservation invariant -/
theorem handleItem_minv (c : Cache) (su : Nat → Nat → Bool) (est : Nat → Int)
    (refills : List (List (Nat × Int))) (it : Item) (hi : MInv c) :
    MInv (c.handleItem su est refills it) := by
  cases it with
  | wait id => exact hi
  | update k cost ext =>
    exact minv_applyEvs hi (Lfu.update_inv c.lfu k _ hi.lfuInv) (Lfu.update_bal c.lfu k _ hi.lfuInv).1
  | delete k cf =>
    rcases Cache.handleItem_delete_cases c su est refills k cf with ⟨-, h⟩ | ⟨e, -, ⟨-, h⟩ | ⟨-, h⟩⟩ <;> rw [h]
    · exact uncharge_minv k hi
    · exact hi
    · exact uncharge_minv k hi
  | new k cf cost v exp =>
    rw [Cache.handleItem_new]; dsimp only
    refine foldl_evictOne_minv _ ?_
    have hb := (policyAdd_bal c.lfu est k (c.internalCost cost) refills hi.lfuInv).1
    have hinv := (policyAdd_spec c.lfu est k (c.internalCost cost) refills hi.lfuInv).inv
    split <;> rename_i hadd <;>
      exact minv_of_bal hi hinv hb (by simp) (by simp) fun hon => by simp [Cache.met_metrics, hon, hadd]

theorem deliverEvictions_minv (cbs : List CB) {c : Cache} (hi : MInv c) : MInv (c.deliverEvictions cbs) :=
  minv_transfer (by simp [Cache.mcore]) hi

theorem sweepOne_minv (c : Cache) (now k cf : Nat) (hi : MInv c) : MInv (c.sweepOne now k cf).1 := by
  rcases Cache.sweepOne_cases c now k cf with ⟨h, -⟩ | ⟨e, -, -, ⟨-, h⟩ | ⟨-, h⟩⟩ <;> rw [h]
  · exact hi
  · exact uncharge_minv k hi
  · exact uncharge_minv k hi

/-- **the conservation invariant is preserved by every step** of the transition system -/
theorem step_minv (su : Nat → Nat → Bool) (c c' : Cache) (a : Act) (hs : c.step su a = some c')
    (hi : MInv c) : MInv c' := by
  apply step_induction (motive := fun _ c' => MInv c') hs
  case procItem =>
    intro est refills c' h
    obtain ⟨-, it, rest, -, rfl⟩ := Cache.procItem_some h
    exact handleItem_minv _ su est refills it (minv_transfer (by simp [Cache.mcore]) hi)
  case procClear =>
    intro c' h
    obtain ⟨-, id, rest, -, rfl⟩ := Cache.procClear_some h
    exact minv_of_empty rfl rfl rfl
  case procTick =>
    intro now order c' h
    obtain ⟨-, rfl⟩ := Cache.procTick_some h
    refine deliverEvictions_minv _ ?_
    exact Cache.sweepKeys_induction (P := fun c _ => MInv c) order _ [] hi fun c _ h p _ => sweepOne_minv c now p.1 p.2 h
  case procStop => intro c' h; obtain ⟨-, rfl⟩ := Cache.procStop_some h; exact hi
  case updateMaxCost => intro _; exact hi
  all_goals intros; exact minv_transfer (by simp [Cache.mcore]) hi

/-- every state of every run from the empty cache satisfies the conservation invariant -/
theorem exec_minv (su : Nat → Nat → Bool) (c : Cache) (acts : List Act) (hi : MInv c) :
    MInv (Cache.run su c acts) :=
  Cache.run_induction (fun c a c' hi hs => step_minv su c c' a hs hi) acts c hi

/-- the metrics switch is fixed at construction: no step changes it -/
theorem step_flag (su : Nat → Nat → Bool) (c c' : Cache) (a : Act) (hs : c.step su a = some c') :
    c'.cfg.metricsOn = c.cfg.metricsOn :=
  congrArg Cfg.metricsOn (step_cfg su c c' a hs)

/-- **C17, the two differences**: in every reachable state, with metrics enabled,
`keys_added − keys_evicted` is the number of charged entries and `cost_added − cost_evicted` is the
charged total (mod 2^64), and the charged total is the sum of the per-key charges. -/
theorem conservation (su : Nat → Nat → Bool) (cfg : Cfg) (maxCost : Int) (samples : Nat) (acts : List Act)
    (hon : cfg.metricsOn = true) :
    let c := Cache.run su (Cache.init cfg maxCost samples) acts
    ((c.metrics.keyAdd : Int) - c.metrics.keyEvict - c.lfu.costs.length) % 18446744073709551616 = 0 ∧
    ((c.metrics.costAdd : Int) - c.metrics.costEvict - c.lfu.used) % 18446744073709551616 = 0 ∧
    c.lfu.used = KMap.total c.lfu.costs := by
  have hi := exec_minv su _ acts (init_minv cfg maxCost samples)
  obtain ⟨h1, h2⟩ := hi.2 (show (Cache.run su _ acts).cfg.metricsOn = true by rw [run_cfg]; exact hon)
  exact ⟨h2, h1, hi.1.2⟩

-- hits + misses ------------------------------------------------------------------------------------

/-- ghost: the number of lookups made on the open cache since the last served `clear()` -/
def ghostStep (c : Cache) (n : Nat) : Act → Nat
  | .get _ _ _ => if c.closed then n else n + 1
  | .getMut _ _ _ _ => if c.closed then n else n + 1
  | .procClear => if c.procClear.isSome then 0 else n
  | _ => n

def lookupsAfter (su : Nat → Nat → Bool) : Cache → Nat → List Act → Nat
  | _, n, [] => n
  | c, n, a :: rest => lookupsAfter su ((c.step su a).getD c) (ghostStep c n a) rest

/-- `hits + misses` is the ghost count, mod 2^64 -/
def HM (c : Cache) (n : Nat) : Prop :=
  c.cfg.metricsOn = true → ((c.metrics.hit : Int) + c.metrics.miss - n) % 18446744073709551616 = 0

theorem HM.congr {c c' : Cache} {n : Nat} (hi : HM c n)
    (h : c'.cfg = c.cfg ∧ c'.metrics.hit = c.metrics.hit ∧ c'.metrics.miss = c.metrics.miss) : HM c' n := by
  obtain ⟨h1, h2, h3⟩ := h
  unfold HM; rw [h1, h2, h3]; exact hi

/-- a lookup counts one hit or one miss -/
theorem HM.lookup {c : Cache} {n : Nat} (hi : HM c n) (b : Bool) :
    HM (c.met fun m => if b then { m with hit := u64 (m.hit + 1) } else { m with miss := u64 (m.miss + 1) })
      (n + 1) := by
  intro hon
  simp only [Cache.met_frame] at hon
  have h0 := hi hon
  simp only [Cache.met_metrics, hon, if_true]
  cases b <;> simp only [Bool.false_eq_true, if_false, if_true]
  · have := u64_cast (c.metrics.miss + 1); omega
  · have := u64_cast (c.metrics.hit + 1); omega

/-- every step keeps `hits + misses` equal to the ghost count -/
theorem step_hm (su : Nat → Nat → Bool) (c c' : Cache) (a : Act) (n : Nat) (hs : c.step su a = some c')
    (hi : HM c n) : HM c' (ghostStep c n a) := by
  apply step_induction (motive := fun a c' => HM c' (ghostStep c n a)) hs
  case get =>
    intro k cf now
    rcases Bool.eq_false_or_eq_true c.closed with h | h
    · simpa [Cache.get, h, ghostStep] using hi
    · rw [Cache.get_eq c k cf now h]
      simp only [ghostStep, h, Bool.false_eq_true, if_false]
      exact (hi.congr (by simp)).lookup _
  case getMut =>
    intro k cf now v
    rcases Bool.eq_false_or_eq_true c.closed with h | h
    · simpa [Cache.getMutWrite, h, ghostStep] using hi
    · rw [Cache.getMutWrite_eq c k cf now v h]
      simp only [ghostStep, h, Bool.false_eq_true, if_false]
      split
      · exact (hi.congr (by simp)).lookup false
      · exact (hi.congr (by simp)).lookup true
  case procItem =>
    intro est refills c' h
    obtain ⟨-, it, rest, -, rfl⟩ := Cache.procItem_some h
    exact hi.congr (by simp)
  case procClear =>
    intro c' h
    obtain ⟨-, id, rest, -, rfl⟩ := Cache.procClear_some h
    intro _
    simp [ghostStep, h]
  case procTick =>
    intro now order c' h
    obtain ⟨-, rfl⟩ := Cache.procTick_some h
    exact hi.congr (by simp)
  case procStop => intro c' h; obtain ⟨-, rfl⟩ := Cache.procStop_some h; exact hi
  all_goals intros; exact hi.congr (by simp)

theorem ghostStep_disabled (su : Nat → Nat → Bool) (c : Cache) (n : Nat) (a : Act) (hs : c.step su a = none) :
    ghostStep c n a = n := by
  cases a <;> simp_all [ghostStep, Cache.step]

/-- **C17, lookups**: after any run from the empty cache, `hits + misses` equals (mod 2^64) the number
of lookups (`get`, `get_mut`) made while the cache was open since the last served `clear()` -/
theorem hits_plus_misses (su : Nat → Nat → Bool) (cfg : Cfg) (maxCost : Int) (samples : Nat) (acts : List Act)
    (hon : cfg.metricsOn = true) :
    let c := Cache.run su (Cache.init cfg maxCost samples) acts
    ((c.metrics.hit : Int) + c.metrics.miss - lookupsAfter su (Cache.init cfg maxCost samples) 0 acts)
      % 18446744073709551616 = 0 :=
  Cache.run_ghost_induction (I := HM) (G := lookupsAfter su) (fun _ _ => rfl) (fun _ _ _ _ => rfl)
    (fun c n a c' hi hs => step_hm su c c' a n hs hi) (fun c n a hi hs => (ghostStep_disabled su c n a hs).symm ▸ hi) acts _ 0 (fun _ => rfl)
    (by rw [run_cfg]; exact hon)

-- sets_dropped, sets_rejected ----------------------------------------------------------------------

/-- **sets_dropped counts exactly the inserts of non-resident keys refused for lack of buffer space**:
an insert call on the open cache bumps the counter iff it returned false although it was allowed to
create the key (not `insert_if_present`) and no resident entry was updated — that is, iff the buffer
had no room; no other counter moves (`Cache.insert_counters`). -/
theorem dropSets_exact (c : Cache) (su : Nat → Nat → Bool) (k cf v : Nat) (cost : Int) (ttl now : Nat)
    (coster : Int) (hopen : c.closed = false) (hon : c.cfg.metricsOn = true) :
    let r := c.insert su k cf v cost ttl now coster false
    let updated := match (c.store.tryUpdate su k v cf { d := ttl, created := now }).2 with
      | .update _ => true
      | _ => false
    let room := c.buf.length < c.cfg.bufCap && !c.procExited
    (updated = false ∧ room = false → r.2 = false ∧ r.1.metrics.dropSets = u64 (c.metrics.dropSets + 1)) ∧
    (¬ (updated = false ∧ room = false) → r.2 = true ∧ r.1.metrics.dropSets = c.metrics.dropSets) := by
  intro r updated room
  simp only [r, updated, room]
  unfold Cache.insert Cache.insertBody
  simp only [hopen, Bool.false_eq_true, ↓reduceIte, Bool.false_and]
  cases (c.store.tryUpdate su k v cf { d := ttl, created := now }).2 <;>
    cases hroom : (decide (c.buf.length < c.cfg.bufCap) && !c.procExited) <;>
    simp [Cache.met_metrics, hon]

/-- **sets_rejected counts exactly the policy's popularity rejections**: one `policy.add` reports
`RejectSets` once iff the eviction loop ran and refused the newcomer (its estimate was below the
sample minimum), never otherwise -/
theorem rejectSets_exact (l : Lfu) (est : Nat → Int) (key : Nat) (cost : Int)
    (refills : List (List (Nat × Int))) (hinv : l.Inv) :
    let R := policyAdd l est key cost refills
    nReject R.events = (if R.victims.isSome ∧ R.added = false ∧ R.stuck = false then 1 else 0) :=
  (policyAdd_bal l est key cost refills hinv).2

-- clear, life expectancy ---------------------------------------------------------------------------

/-- **counters restart from zero at `clear()`** -/
theorem clear_resets (c c' : Cache) (hs : c.procClear = some c') : c'.metrics = {} := by
  obtain ⟨-, id, rest, -, rfl⟩ := Cache.procClear_some hs; rfl

/-- **every eviction of a tracked entry adds one sample** (sweep path): delivering the `on_evict`
of key `k` adds exactly one sample to the life-expectancy histogram iff `k` was tracked, and untracks
it -/
theorem sweep_eviction_of_tracked_adds_one_sample (c : Cache) (k cf v : Nat) (cost : Int)
    (hon : c.cfg.metricsOn = true) :
    (c.deliverEvictions [CB.evict k cf v cost]).metrics.lifeCount =
      c.metrics.lifeCount + (if c.tracked.contains k then 1 else 0) ∧
    (c.deliverEvictions [CB.evict k cf v cost]).tracked = c.tracked.filter (· != k) := by
  simp only [Cache.deliverEvictions]
  split <;> simp [hon, Cache.met]

/-- the same for a victim of an admission that is found in the store -/
theorem admission_eviction_of_tracked_adds_one_sample (c : Cache) (vk : Nat) (vc : Int) (e : Entry)
    (hon : c.cfg.metricsOn = true) (hres : (c.store.tryRemove vk 0).2 = some e) :
    (c.evictVictims [(vk, vc)]).metrics.lifeCount =
      c.metrics.lifeCount + (if c.tracked.contains vk then 1 else 0) ∧
    (c.evictVictims [(vk, vc)]).tracked = c.tracked.filter (· != vk) := by
  simp only [Cache.evictVictims, hres]
  split <;> simp [hon, Cache.met]

-- the histogram type behind `life_expectancy_seconds()` --------------------------------------------

/-- one bucket more than bounds, and `count` is the sum of the buckets -/
def Hist.WF (h : Hist) : Prop := h.buckets.length = h.bounds.length + 1 ∧ h.count = h.buckets.sum

theorem bucketIdx_le (bs : List Int) (v : Int) : Hist.bucketIdx bs v ≤ bs.length := by
  induction bs with
  | nil => exact Nat.le_refl 0
  | cons b rest ih =>
    unfold Hist.bucketIdx
    split
    · exact Nat.zero_le _
    · exact Nat.add_comm .. ▸ Nat.succ_le_succ ih

/-- **the bucket of a sample**: every bound before it is ≤ the value, and its own bound (if it is not
the overflow bucket) is > the value -/
theorem bucketIdx_spec (bs : List Int) (v : Int) :
    (∀ j, j < Hist.bucketIdx bs v → ∀ b, bs[j]? = some b → b ≤ v) ∧
    (∀ b, bs[Hist.bucketIdx bs v]? = some b → v < b) := by
  induction bs with
  | nil => simp [Hist.bucketIdx]
  | cons b rest ih =>
    unfold Hist.bucketIdx
    split
    · exact ⟨fun j hj => absurd hj (Nat.not_lt_zero j), fun b' hb' => by cases hb'; assumption⟩
    · rw [Nat.add_comm]
      refine ⟨fun j hj b' hb' => ?_, ih.2⟩
      cases j with
      | zero => cases hb'; omega
      | succ j => exact ih.1 j (Nat.lt_of_succ_lt_succ hj) b' hb'

theorem incAt_eq_modify (l : List Int) (i : Nat) : Hist.incAt l i = l.modify i (· + 1) := by
  induction l generalizing i with
  | nil => simp [Hist.incAt]
  | cons x rest ih => cases i <;> simp [Hist.incAt, ih]

theorem incAt_length (l : List Int) (i : Nat) : (Hist.incAt l i).length = l.length := by
  rw [incAt_eq_modify, List.length_modify]

theorem incAt_sum (l : List Int) (i : Nat) (h : i < l.length) : (Hist.incAt l i).sum = l.sum + 1 := by
  induction l generalizing i with
  | nil => cases h
  | cons x rest ih =>
    cases i with
    | zero => simp only [Hist.incAt, List.sum_cons]; omega
    | succ j => simp only [Hist.incAt, List.sum_cons, ih j (Nat.lt_of_succ_lt_succ h)]; omega

/-- `update` moves exactly one bucket, by one -/
theorem incAt_get (l : List Int) (i j : Nat) (h : i < l.length) :
    (Hist.incAt l i).getD j 0 = l.getD j 0 + (if j = i then 1 else 0) := by
  rw [incAt_eq_modify, List.getD_eq_getElem?_getD, List.getD_eq_getElem?_getD, List.getElem?_modify]
  by_cases hji : j = i
  · subst hji; simp [h]
  · simp [hji, Ne.symm hji]

theorem hist_new_wf (bounds : List Int) : Hist.WF (Hist.new bounds) :=
  ⟨List.length_replicate, by simp [Hist.new]⟩

/-- **count equals the sum of the buckets**, after every `update` -/
theorem hist_update_wf (h : Hist) (v : Int) (hw : Hist.WF h) : Hist.WF (h.update v) := by
  obtain ⟨h1, h2⟩ := hw
  have hi : Hist.bucketIdx h.bounds v < h.buckets.length :=
    h1 ▸ Nat.lt_succ_of_le (bucketIdx_le h.bounds v)
  exact ⟨(incAt_length ..).trans h1, by simp only [Hist.update, incAt_sum _ _ hi, h2]⟩

theorem hist_clear_wf (h : Hist) (hw : Hist.WF h) : Hist.WF h.clear :=
  ⟨(List.length_map ..).trans hw.1, by simp [Hist.clear, List.map_const']⟩

/-- in every state reachable from `new` by updates and clears, `count` = Σ buckets -/
theorem hist_count_eq_sum_buckets (bounds : List Int) (ops : List (Option Int)) :
    Hist.WF (ops.foldl (fun h o => match o with | some v => h.update v | none => h.clear) (Hist.new bounds)) :=
  List.foldlRecOn ops _ (hist_new_wf bounds) fun h hw o _ => by
    cases o with
    | none => exact hist_clear_wf h hw
    | some v => exact hist_update_wf h v hw

example : ((Hist.new [1, 2, 4, 8]).update 3 |>.update 8 |>.update 0).buckets = [1, 0, 1, 0, 1] := by decide

-- non-vacuity ---------------------------------------------------------------------------------------
def exCfg : Cfg := { itemSize := 56, ignoreInternal := true, bufCap := 4, ringCap := 2, pqCap := some 3, metricsOn := true }
/-- two inserts applied, one lookup hit, one miss -/
def exActs : List Act :=
  [.insert 3 0 77 5 0 0 0 false, .insert 4 0 78 7 0 0 0 false, .procItem (fun _ => 0) [], .procItem (fun _ => 0) [],
   .get 3 0 0, .get 9 0 0]
def exRun : Cache := Cache.run (fun _ _ => true) (Cache.init exCfg 1000 5) exActs
example : exRun.metrics.keyAdd = 2 ∧ exRun.metrics.costAdd = 12 ∧ exRun.lfu.used = 12 ∧
    exRun.lfu.costs.length = 2 ∧ exRun.metrics.hit = 1 ∧ exRun.metrics.miss = 1 := by decide
example : lookupsAfter (fun _ _ => true) (Cache.init exCfg 1000 5) 0 exActs = 2 := by decide


end Stretto.C17

#print axioms Stretto.C17.step_minv
#print axioms Stretto.C17.conservation
#print axioms Stretto.C17.hits_plus_misses
#print axioms Stretto.C17.dropSets_exact
#print axioms Stretto.C17.rejectSets_exact
#print axioms Stretto.C17.clear_resets
#print axioms Stretto.C17.hist_count_eq_sum_buckets
#print axioms Stretto.C17.bucketIdx_spec
#print axioms Stretto.C17.incAt_get
#print axioms Stretto.C17.sweep_eviction_of_tracked_adds_one_sample
#print axioms Stretto.C17.admission_eviction_of_tracked_adds_one_sample
