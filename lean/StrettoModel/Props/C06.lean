import StrettoModel.Proofs.Agree
/-!
# C06 — Resident entries and policy charges always agree at quiescence

Quantification: every sequence of actions of the labelled transition system of `Model/Lts.lean` —
any interleaving of client calls (insert, insert_if_present, get, get_mut, remove, wait, clear,
close, update_max_cost) from any number of threads with the processor's iterations (insert-buffer
item, clear request, cleanup tick, stop) and the policy worker, at the granularity "one call / one
loop iteration = one step" — every validator, every estimate function, every sample order.
Two guards on oracle inputs, both checked at run time by the driver on what the implementation
observed: `VictimsOk` (no sampled victim is the incoming key) and `TickOk` (conflict hashes filed in
the expiry buckets pass the store's check for the entries they refer to).
-/
namespace Stretto.C06
open Stretto

/-- the guards on the oracle inputs of an action -/
def ActOk (c : Cache) : Act → Prop
  | .procItem est refills => ∀ it rest, c.buf = it :: rest →
      VictimsOk (({ c with buf := rest } : Cache).admitPending) est refills it
  | .procTick _ order => TickOk c order
  | _ => True

/-- **the invariant is preserved by every step** -/
theorem step_good (su : Nat → Nat → Bool) (c c' : Cache) (a : Act) (hok : ActOk c a)
    (hs : c.step su a = some c') (h : Good06 c) : Good06 c' := by
  rcases h with he | h
  · exact Or.inl ((step_protocol hs).2.2.1.mpr (Or.inl he))
  revert hok
  apply step_induction (motive := fun a c' => ActOk c a → Good06 c') hs
  case insert =>
    intro k cf v cost ttl now coster only _
    exact .inr (insert_inv06 c su k cf v cost ttl now coster only h)
  case get => intro k cf now _; exact .inr (h.frame (by simp) (by simp) (by simp))
  case getMut => intro k cf now v _; exact .inr (getMut_inv06 c k cf now v h)
  case remove => intro k cf _; exact .inr (remove_inv06 c k cf h)
  case waitEnq => intro id _; exact .inr (waitEnq_inv06 c id h)
  case clearReq => intro id _; exact .inr (h.frame (by simp) (by simp) (by simp))
  case closeBegin => intro id _; exact .inr (h.frame (by simp) (by simp) (by simp))
  case updateMaxCost =>
    intro mc _
    exact .inr (h.same h.storeWF (Lfu.updateMaxCost_inv _ _ h.lfuInv) (fun _ => rfl) (fun _ => rfl) fun _ _ => id)
  case procItem =>
    intro est refills c' hs hok
    obtain ⟨-, it, rest, hb, rfl⟩ := Cache.procItem_some hs
    -- the popped item still counts as pending for `handleItem_inv06`
    exact .inr (handleItem_inv06 _ su est refills it
      (h.frame (by simp) (by simp) (by simp [Cache.admitPending_inflight, hb])) (hok it rest hb))
  case procClear => intro c' hs _; exact .inr (procClear_inv06 hs)
  case procTick => intro now order c' hs hok; exact .inr (procTick_inv06 h hok hs)
  case procStop => intro c' hs _; obtain ⟨-, rfl⟩ := Cache.procStop_some hs; exact .inl rfl
  case policyWorker => intro b rest _ _; exact .inr (h.frame rfl rfl fun _ _ => id)
  case policyClose => intro _; exact .inr (h.frame rfl rfl fun _ _ => id)

/-- a run in which every enabled action satisfies the guards -/
inductive Run (su : Nat → Nat → Bool) : Cache → Cache → Prop
  | refl (c : Cache) : Run su c c
  | step (c c' c'' : Cache) (a : Act) : Run su c c' → ActOk c' a → c'.step su a = some c'' → Run su c c''

theorem init_good (cfg : Cfg) (maxCost : Int) (samples : Nat) : Good06 (Cache.init cfg maxCost samples) :=
  Or.inr ⟨KMap.wf_nil, ⟨KMap.wf_nil, rfl⟩, fun k hk => by simp [Cache.init, Store.empty] at hk,
    fun k hk => by simp [Cache.init] at hk⟩

theorem reachable_good (su : Nat → Nat → Bool) (c0 c : Cache) (h0 : Good06 c0) (hr : Run su c0 c) :
    Good06 c := by
  induction hr with
  | refl => exact h0
  | step c' c'' a _ hok hs ih => exact step_good su c' c'' a hok hs ih

/-- quiescent: the processor is alive and has nothing left to do for the clients -/
def Quiescent (c : Cache) : Prop :=
  c.procExited = false ∧ c.buf = [] ∧ c.pendingSends = []

theorem reachable_inv06 {su : Nat → Nat → Bool} {cfg : Cfg} {maxCost : Int} {samples : Nat} {c : Cache}
    (hr : Run su (Cache.init cfg maxCost samples) c) (halive : c.procExited = false) : Inv06 c :=
  (reachable_good su _ c (init_good cfg maxCost samples) hr).resolve_left (by simp [halive])

/-- **agree_at_quiescence**: in every reachable quiescent state the set of resident entries equals
the set of entries the policy charges for (told apart by their index hash), resident keys are
distinct so `len()` is their number, and `used` is the sum of the charges. -/
theorem agree_at_quiescence (su : Nat → Nat → Bool) (cfg : Cfg) (maxCost : Int) (samples : Nat)
    (c : Cache) (hr : Run su (Cache.init cfg maxCost samples) c) (hq : Quiescent c) :
    (∀ k, (c.store.items.get k).isSome = (c.lfu.costs.get k).isSome) ∧
    (KMap.keys c.store.items).Nodup ∧ c.len = (KMap.keys c.store.items).length ∧
    c.lfu.used = KMap.total c.lfu.costs := by
  have h := reachable_inv06 hr hq.1
  refine ⟨fun k => h.agree k ?_, h.storeWF, by simp [Cache.len, Store.len, KMap.keys], h.lfuInv.2⟩
  simp [pendingDelete, hq.2.1, hq.2.2]

/-- between quiescent points: no entry is ever resident without being charged (hence evictable),
in every reachable state while the processor is alive -/
theorem resident_always_charged (su : Nat → Nat → Bool) (cfg : Cfg) (maxCost : Int) (samples : Nat)
    (c : Cache) (hr : Run su (Cache.init cfg maxCost samples) c) (halive : c.procExited = false) (k : Nat)
    (hres : (c.store.items.get k).isSome = true) : (c.lfu.costs.get k).isSome = true :=
  (reachable_inv06 hr halive).resident_charged k hres

/-- a charge without a resident entry belongs to a key whose `Delete` is still on its way -/
theorem charge_outlives_entry_only_while_delete_pending (su : Nat → Nat → Bool) (cfg : Cfg)
    (maxCost : Int) (samples : Nat) (c : Cache) (hr : Run su (Cache.init cfg maxCost samples) c)
    (halive : c.procExited = false) (k : Nat) (hch : (c.lfu.costs.get k).isSome = true)
    (hnr : (c.store.items.get k).isSome = false) :
    ∃ cf, Item.delete k cf ∈ c.buf ++ c.pendingSends :=
  ((reachable_inv06 hr halive).charged_resident k hch).resolve_left (by simp [hnr])

-- non-vacuity: a concrete run reaching a non-trivial quiescent state -----------------------------
def exCfg : Cfg := { itemSize := 56, ignoreInternal := true, bufCap := 4, ringCap := 2, pqCap := some 3, metricsOn := false }
def exRun : List Act := [.insert 1 0 11 5 0 10 0 false, .insert 2 0 12 5 0 10 0 false,
  .procItem (fun _ => 0) [], .procItem (fun _ => 0) [], .remove 1 0, .procItem (fun _ => 0) []]
example : ((Cache.run (fun _ _ => true) (Cache.init exCfg 100 5) exRun).store.items.map (·.1),
           (Cache.run (fun _ _ => true) (Cache.init exCfg 100 5) exRun).lfu.costs,
           (Cache.run (fun _ _ => true) (Cache.init exCfg 100 5) exRun).buf.length) = ([2], [(2, 5)], 0) := by rfl

end Stretto.C06

#print axioms Stretto.C06.step_good
#print axioms Stretto.C06.reachable_good
#print axioms Stretto.C06.agree_at_quiescence
#print axioms Stretto.C06.resident_always_charged
#print axioms Stretto.C06.charge_outlives_entry_only_while_delete_pending
