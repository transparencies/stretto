import StrettoModel.Props.C17
/-!
# C01 — Charged cost of resident entries never exceeds max_cost

The policy's cost bookkeeping sits behind one mutex and every method holds it for its whole body,
so "every schedule" of client threads and the processor reduces to "every sequence of policy
method calls", which is what these theorems quantify over (any keys, any non-negative costs, any
`max_cost` values including negative ones, any estimates, any sample orders).
-/
namespace Stretto.C01
open Stretto

/-- the calls the cache makes on the policy's cost bookkeeping -/
inductive POp
  | add (key : Nat) (cost : Int) (est : Nat → Int) (refills : List (List (Nat × Int)))
  | remove (key : Nat)
  | update (key : Nat) (cost : Int)
  | clear
  | updateMaxCost (mc : Int)

/-- domain assumption: costs are non-negative -/
def POp.Dom : POp → Prop
  | .add _ c _ _ => 0 ≤ c
  | .update _ c => 0 ≤ c
  | _ => True

/-- policy state plus the ghost `slack`: what in-place updates of charged keys and lowerings of
`max_cost` have added since the last admission of a new key -/
structure GSt where
  l : Lfu
  slack : Int

def step (g : GSt) : POp → GSt
  | .add key cost est refills =>
    let R := policyAdd g.l est key cost refills
    { l := R.lfu,
      slack := if R.added then 0
        else match g.l.costs.get key with
          | some prev => if cost ≤ g.l.maxCost then g.slack + max 0 (cost - prev) else g.slack
          | none => g.slack }
  | .remove key => { g with l := (policyRemove g.l key).1 }
  | .update key cost =>
    { l := (g.l.update key cost).1,
      slack := match g.l.costs.get key with
        | some prev => g.slack + max 0 (cost - prev)
        | none => g.slack }
  | .clear => { g with l := g.l.clear }
  | .updateMaxCost mc => { l := g.l.updateMaxCost mc, slack := g.slack + max 0 (g.l.maxCost - mc) }

def run (g : GSt) (ops : List POp) : GSt := ops.foldl step g

/-- the inductive invariant -/
structure GSt.Good (g : GSt) : Prop where
  inv : g.l.Inv
  nonneg : g.l.NonNeg
  slack_nonneg : 0 ≤ g.slack
  bounded : g.l.used ≤ max 0 g.l.maxCost + g.slack

/-- re-charging a key in place, by `update` or by `add` of a charged key: the growth goes to `slack` -/
theorem update_good (g : GSt) (key : Nat) (cost : Int) (hc : 0 ≤ cost) (h : g.Good) :
    (step g (.update key cost)).Good := by
  obtain ⟨hinv, hnn, hs, hb⟩ := h
  refine ⟨Lfu.update_inv g.l key cost hinv, Lfu.update_nonneg g.l key cost hnn hc, ?_, ?_⟩ <;>
    simp only [step]
  · split
    · exact Int.add_nonneg hs (Int.le_max_left _ _)
    · exact hs
  · cases hg : g.l.costs.get key with
    | none => rw [Lfu.update_none cost hg]; exact hb
    | some prev =>
      have := Int.le_max_right 0 (cost - prev)
      rw [Lfu.update_some cost hg]; simp only; omega

theorem step_good (g : GSt) (op : POp) (hd : op.Dom) (h : g.Good) : (step g op).Good := by
  have ⟨hinv, hnn, hs, hb⟩ := h
  cases op with
  | add key cost est refills =>
    have hc : 0 ≤ cost := hd
    rcases policyAdd_cases g.l est key cost refills with
      ⟨hbig, e⟩ | ⟨prev, hle, hg, e⟩ | ⟨hle, hg, hroom, e⟩ | ⟨hle, hg, hroom, e⟩
    · -- oversize: nothing changes
      simp only [step, e, Int.not_le.2 hbig, if_false, Bool.false_eq_true]
      split <;> exact h
    · simpa only [step, e, hle, if_true, Bool.false_eq_true, if_false] using update_good g key cost hc h
    · refine ⟨?_, ?_, ?_, ?_⟩ <;> simp only [step, e, if_true]
      · exact Lfu.increment_inv g.l key cost hinv hg
      · exact Lfu.increment_nonneg g.l key cost hnn hc
      · exact Int.le_refl 0
      · exact Int.le_trans (g.l.increment_used_le key cost hroom)
          (Int.le_trans (Int.le_max_right 0 _) (Int.le_add_of_nonneg_right (Int.le_refl 0)))
    · -- the loop: an admission re-establishes `used ≤ max_cost`, a refusal only releases charges
      have spec := policyAdd_spec g.l est key cost refills hinv
      obtain ⟨hn1, hn2⟩ := (evictLoop_run est (est key) key cost g.l [] [] [] [] refills).nonneg hc hnn
      rw [e] at spec
      refine ⟨?_, ?_, ?_, ?_⟩ <;> simp only [step, e, hg]
      · exact spec.inv
      · exact hn1
      · split
        · exact Int.le_refl 0
        · exact hs
      · have := Int.le_max_right 0 g.l.maxCost
        rw [spec.maxCost]
        split
        · have := (spec.admitted ‹_›).1; rw [spec.maxCost] at this; omega
        · have := hn2 ((Bool.not_eq_true _).mp ‹_›); omega
  | remove key =>
    simp only [step, policyRemove_fst]
    refine ⟨Lfu.remove_inv g.l key hinv, Lfu.remove_nonneg g.l key hnn, hs, ?_⟩
    show _ ≤ max 0 (g.l.remove key).1.maxCost + g.slack
    rw [(Lfu.remove_fields g.l key).1]
    exact Int.le_trans (Lfu.remove_used_le g.l key hnn) hb
  | update key cost => exact update_good g key cost hd h
  | clear =>
    exact ⟨Lfu.clear_inv g.l, Lfu.clear_nonneg g.l, hs,
      Int.add_nonneg (Int.le_max_left 0 _) hs⟩
  | updateMaxCost mc =>
    -- the positive part is subadditive: what `max 0 max_cost` loses goes to `slack`
    have h1 : 0 ≤ max 0 (g.l.maxCost - mc) := Int.le_max_left _ _
    have h2 : max 0 g.l.maxCost ≤ max 0 mc + max 0 (g.l.maxCost - mc) :=
      Int.max_le.2 ⟨Int.add_nonneg (Int.le_max_left _ _) h1, by
        have := Int.le_max_right 0 mc; have := Int.le_max_right 0 (g.l.maxCost - mc); omega⟩
    exact ⟨hinv, hnn, Int.add_nonneg hs h1, by simp only [step, Lfu.updateMaxCost]; omega⟩

/-- **bounded_with_slack / used_eq_sum, every reachable state**: from any good state (e.g. the empty
policy), after every sequence of policy calls with non-negative costs: keys are distinct, `used`
equals the sum of the per-entry charges, and `used ≤ max 0 max_cost + slack` where `slack` is only
what in-place updates of charged keys and lowerings of `max_cost` added since the last admission. -/
theorem bounded_with_slack (g : GSt) (ops : List POp) (hd : ∀ op ∈ ops, op.Dom) (h : g.Good) :
    (run g ops).Good := by
  induction ops generalizing g with
  | nil => exact h
  | cons op ops ih =>
    exact ih (step g op) (fun o ho => hd o (by simp [ho])) (step_good g op (hd op (by simp)) h)

/-- the empty policy is a good state, for every `max_cost` (negative ones included) -/
theorem init_good (mc : Int) (samples : Nat) :
    GSt.Good { l := { costs := [], used := 0, maxCost := mc, samples := samples }, slack := 0 } :=
  ⟨⟨KMap.wf_nil, rfl⟩, fun _ _ h => by simp at h, Int.le_refl _, by simp only; omega⟩

/-- **used_eq_sum** as a corollary, stated on its own -/
theorem used_eq_sum (mc : Int) (samples : Nat) (ops : List POp) (hd : ∀ op ∈ ops, op.Dom) :
    let l := (run { l := { costs := [], used := 0, maxCost := mc, samples := samples }, slack := 0 } ops).l
    l.costs.WF ∧ l.used = KMap.total l.costs :=
  (bounded_with_slack _ ops hd (init_good mc samples)).inv

/-- **admit_reestablishes**: every admission of a new key leaves `used ≤ max_cost` (whatever the
state was before, over-budget states included) -/
theorem admit_reestablishes (l : Lfu) (est : Nat → Int) (key : Nat) (cost : Int)
    (refills : List (List (Nat × Int))) (hinv : l.Inv)
    (ha : (policyAdd l est key cost refills).added = true) :
    (policyAdd l est key cost refills).lfu.used ≤ (policyAdd l est key cost refills).lfu.maxCost ∧
    (policyAdd l est key cost refills).lfu.maxCost = l.maxCost :=
  ⟨((policyAdd_spec l est key cost refills hinv).admitted ha).1,
   (policyAdd_spec l est key cost refills hinv).maxCost⟩

/-- **oversize_never_admitted**: an entry whose own cost exceeds `max_cost` is never admitted, and
the attempt changes nothing -/
theorem oversize_never_admitted (l : Lfu) (est : Nat → Int) (key : Nat) (cost : Int)
    (refills : List (List (Nat × Int))) (hinv : l.Inv) (hbig : cost > l.maxCost) :
    (policyAdd l est key cost refills).added = false ∧ (policyAdd l est key cost refills).lfu = l :=
  ⟨((policyAdd_spec l est key cost refills hinv).oversize hbig).1,
   ((policyAdd_spec l est key cost refills hinv).oversize hbig).2.1⟩

/-- **max_cost_takes_effect**: after `update_max_cost mc`, the very next admission is decided
against `mc`: oversize relative to `mc` is refused, and an admission leaves `used ≤ mc`. -/
theorem max_cost_takes_effect (l : Lfu) (mc : Int) (est : Nat → Int) (key : Nat) (cost : Int)
    (refills : List (List (Nat × Int))) (hinv : l.Inv) :
    let R := policyAdd (l.updateMaxCost mc) est key cost refills
    (cost > mc → R.added = false) ∧ (R.added = true → R.lfu.used ≤ mc) := by
  have spec := policyAdd_spec (l.updateMaxCost mc) est key cost refills (Lfu.updateMaxCost_inv l mc hinv)
  refine ⟨fun h => (spec.oversize h).1, fun ha => ?_⟩
  have := (spec.admitted ha).1
  rw [spec.maxCost] at this
  exact this

-- non-vacuity -------------------------------------------------------------------------------
example : (run { l := { costs := [], used := 0, maxCost := 10, samples := 5 }, slack := 0 }
    [.add 1 4 (fun _ => 0) [], .add 2 4 (fun _ => 0) [], .update 1 9, .updateMaxCost 8]).l.used = 13 ∧
  (run { l := { costs := [], used := 0, maxCost := 10, samples := 5 }, slack := 0 }
    [.add 1 4 (fun _ => 0) [], .add 2 4 (fun _ => 0) [], .update 1 9, .updateMaxCost 8]).slack = 7 := by
  decide

-- at the level of the whole cache ---------------------------------------------------------------------

/-- **the charged total is the sum of the per-entry charges, and no key is charged twice, in every state
the cache can reach** — any interleaving of any client calls with the processor, the ticker, clears,
the policy worker, `update_max_cost` (from C17's conservation invariant, which carries `Lfu.Inv`) -/
theorem cache_used_is_sum (su : Nat → Nat → Bool) (cfg : Cfg) (maxCost : Int) (samples : Nat) (acts : List Act) :
    let c := Cache.run su (Cache.init cfg maxCost samples) acts
    c.lfu.costs.WF ∧ c.lfu.used = KMap.total c.lfu.costs :=
  (C17.exec_minv su _ acts (C17.init_minv cfg maxCost samples)).lfuInv

/-- **every admission of a new key by the processor re-establishes `used ≤ max_cost`**, in every
reachable state, whatever slack in-place updates or a lowered `max_cost` had left before: if the step is
the processor applying a `New` item for a key that was not charged and is charged afterwards, the charged
total fits. An item whose own charge exceeds `max_cost` is never admitted and changes no charge. -/
theorem cache_admission_reestablishes (su : Nat → Nat → Bool) (c c' : Cache) (est : Nat → Int)
    (refills : List (List (Nat × Int))) (hs : c.step su (.procItem est refills) = some c')
    (hinv : c.lfu.Inv) (k cf : Nat) (cost : Int) (v : Nat) (exp : Time) (rest : List Item)
    (hb : c.buf = Item.new k cf cost v exp :: rest) :
    (c.lfu.costs.get k = none → (c'.lfu.costs.get k).isSome = true → c'.lfu.used ≤ c'.lfu.maxCost) ∧
    (c.internalCost cost > c.lfu.maxCost → c'.lfu = c.lfu) := by
  obtain ⟨-, it, rest', hb', rfl⟩ := Cache.procItem_some hs
  rw [hb] at hb'; cases hb'
  -- the blocked sender let in first changes neither the policy nor the configuration
  have hlfu : ((({ c with buf := rest } : Cache).admitPending).handleItem su est refills
      (Item.new k cf cost v exp)).lfu = (policyAdd c.lfu est k (c.internalCost cost) refills).lfu := by
    simp [Cache.handleItem_new_lfu, Cache.internalCost]
  rw [hlfu]
  have sp := policyAdd_spec c.lfu est k (c.internalCost cost) refills hinv
  refine ⟨fun hnone hsome => ?_, fun hbig => (sp.oversize hbig).2.1⟩
  cases hadd : (policyAdd c.lfu est k (c.internalCost cost) refills).added with
  | true => exact (sp.admitted hadd).1
  | false => rw [sp.refused hadd hnone] at hsome; cases hsome

end Stretto.C01

#print axioms Stretto.C01.bounded_with_slack
#print axioms Stretto.C01.init_good
#print axioms Stretto.C01.used_eq_sum
#print axioms Stretto.C01.admit_reestablishes
#print axioms Stretto.C01.oversize_never_admitted
#print axioms Stretto.C01.max_cost_takes_effect
#print axioms Stretto.C01.cache_used_is_sum
#print axioms Stretto.C01.cache_admission_reestablishes
