import StrettoModel.Proofs.Step
/-!
# C12 — close() is final, idempotent and leaves no worker behind

`close()` = [swap `is_closed`; only the first closer goes on] → clear request + wait → stop
rendezvous with the processor → stop rendezvous with the policy worker. Quantification: every cache
state (every history before the close).  Not a theorem: that the OS thread of a worker is gone —
the model shows the worker loop has returned (`procExited`), the harness observes the rest.
-/
namespace Stretto.C12
open Stretto

/-- **closed_ops_inert**: once `is_closed` is set, every client operation returns its "closed"
answer immediately and leaves the whole state untouched: insert → false, get / get_mut → nothing,
remove / clear / wait / close → Ok without effect (nothing is enqueued, nothing blocks). -/
theorem closed_ops_inert (c : Cache) (hc : c.closed = true) (su : Nat → Nat → Bool)
    (k cf v : Nat) (cost : Int) (ttl now : Nat) (coster : Int) (only : Bool) (id : Nat) :
    c.insert su k cf v cost ttl now coster only = (c, false) ∧
    c.get k cf now = (c, none) ∧
    c.getMutWrite k cf now v = (c, none) ∧
    c.remove k cf = (c, false) ∧
    c.waitEnq id = (c, none) ∧
    c.clearReq id = (c, false) ∧
    c.closeBegin id = (c, false) := by
  simp [Cache.insert, Cache.get, Cache.getMutWrite, Cache.remove, Cache.waitEnq, Cache.clearReq,
    Cache.closeBegin, hc]

/-- **exactly one closer proceeds**: the first `close()` publishes `is_closed` and files its clear
request; any later or concurrent one sees the flag and returns Ok at once — it never reaches the
stop rendezvous, so it can neither block on it nor get an error from it. -/
theorem one_closer (c : Cache) (id id' : Nat) (hopen : c.closed = false) :
    (c.closeBegin id).2 = true ∧ (c.closeBegin id).1.closed = true ∧
    ((c.closeBegin id).1.closeBegin id') = ((c.closeBegin id).1, false) := by
  simp [Cache.closeBegin, hopen]

/-- **workers_exit / nobody left waiting**: when the processor takes the stop branch it releases
every wait marker still in the buffer and every pending clear request, then returns; afterwards no
processor iteration is enabled any more. -/
theorem stop_releases_everybody (c c' : Cache) (h : c.procStop = some c') :
    c'.procExited = true ∧
    (∀ id, Item.wait id ∈ c.buf → id ∈ c'.released) ∧
    (∀ id ∈ c.clearQ, id ∈ c'.released) ∧
    (∀ id ∈ c.released, id ∈ c'.released) := by
  obtain ⟨-, rfl⟩ := Cache.procStop_some h
  refine ⟨rfl, fun id hid => ?_, fun id hid => ?_, fun id hid => ?_⟩
  · exact List.mem_append_left _ (List.mem_append_right _ (List.mem_filterMap.mpr ⟨_, hid, rfl⟩))
  · exact List.mem_append_left _ (List.mem_append_left _ hid)
  · exact List.mem_append_right _ hid

theorem exited_processor_is_inert (c : Cache) (h : c.procExited = true) (su : Nat → Nat → Bool)
    (est : Nat → Int) (refills : List (List (Nat × Int))) (now : Nat) (order : List (Nat × Nat)) :
    c.procItem su est refills = none ∧ c.procClear = none ∧ c.procTick now order = none ∧
    c.procStop = none := by
  simp [Cache.procItem, Cache.procClear, Cache.procTick, Cache.procStop, h]

/-- a waiter whose marker is in the buffer, or a clearer whose request is queued, when the
processor stops is released by that very step: it can return (`mayReturn`) from then on -/
theorem waiter_can_return_after_stop (c c' : Cache) (h : c.procStop = some c') (id : Nat)
    (hw : Item.wait id ∈ c.buf ∨ id ∈ c.clearQ) : c'.mayReturn id true = true := by
  obtain ⟨_, h1, h2, _⟩ := stop_releases_everybody c c' h
  have : id ∈ c'.released := hw.elim (h1 id) (h2 id)
  simp [Cache.mayReturn, this]

/-- and a call that arrives after the close was published does not block at all: `wait()` and
`clear()` re-check `is_closed` after filing their request -/
theorem late_waiter_does_not_block (c : Cache) (id : Nat) (hc : c.closed = true) :
    c.mayReturn id true = true := by
  simp [Cache.mayReturn, hc]

/-- `is_closed` is never reset, by anybody -/
theorem step_closed_mono (su : Nat → Nat → Bool) (c c' : Cache) (a : Act) (hs : c.step su a = some c')
    (h : c.closed = true) : c'.closed = true := (step_protocol hs).2.1.mpr (Or.inl h)

theorem run_closed_mono (su : Nat → Nat → Bool) (acts : List Act) (c : Cache) (h : c.closed = true) :
    (Cache.run su c acts).closed = true :=
  Cache.run_induction (fun c a c' h hs => step_closed_mono su c c' a hs h) acts c h

/-- the part of the state a user can observe or that later behaviour depends on, minus what the policy
worker and `update_max_cost` may still touch after a close (the queue of get batches, the
`policy closed` flag, `max_cost`) -/
def frozen (c : Cache) :=
  (c.store, c.lfu.costs, c.lfu.used, c.buf, c.pendingSends, c.clearQ, c.ring, c.metrics, c.released, c.cbs)

/-- **close() is final, over every later history**: once `is_closed` is set and the processor has
taken its stop iteration, *no* run — any number of clients calling anything, late ticks, the policy
worker draining, further `close()` calls — changes the store, the charges, the buffer, the metrics,
the released set or the callback log any more, and the two flags stay set for ever. -/
theorem closed_is_final (su : Nat → Nat → Bool) (acts : List Act) :
    ∀ (c : Cache), c.closed = true → c.procExited = true →
      (Cache.run su c acts).closed = true ∧ (Cache.run su c acts).procExited = true ∧
      frozen (Cache.run su c acts) = frozen c := by
  intro c0 hc0 he0
  refine Cache.run_induction (P := fun c => c.closed = true ∧ c.procExited = true ∧ frozen c = frozen c0)
    (fun c a c' ⟨hc, he, hf⟩ hs =>
      ⟨(step_protocol hs).2.1.mpr (Or.inl hc), (step_protocol hs).2.2.1.mpr (Or.inl he), ?_⟩)
    acts c0 ⟨hc0, he0, rfl⟩
  -- every client call answers "closed" and every processor iteration is disabled; what is left
  -- (`update_max_cost`, the policy worker, `policy.close()`) touches nothing `frozen` looks at
  have inert := closed_ops_inert c hc su
  have dead := exited_processor_is_inert c he su
  rw [← hf]
  apply step_induction (motive := fun _ c' => frozen c' = frozen c) hs
  case insert => intros; rw [(inert _ _ _ _ _ _ _ _ 0).1]
  case get => intros; rw [(inert _ _ 0 0 0 _ 0 false 0).2.1]
  case getMut => intros; rw [(inert _ _ _ 0 0 _ 0 false 0).2.2.1]
  case remove => intros; rw [(inert _ _ 0 0 0 0 0 false 0).2.2.2.1]
  case waitEnq => intros; rw [(inert 0 0 0 0 0 0 0 false _).2.2.2.2.1]
  case clearReq => intros; rw [(inert 0 0 0 0 0 0 0 false _).2.2.2.2.2.1]
  case closeBegin => intros; rw [(inert 0 0 0 0 0 0 0 false _).2.2.2.2.2.2]
  case procItem => intro est refills _ h; rw [(dead est refills 0 []).1] at h; cases h
  case procClear => intro _ h; rw [(dead (fun _ => 0) [] 0 []).2.1] at h; cases h
  case procTick => intro now order _ h; rw [(dead (fun _ => 0) [] now order).2.2.1] at h; cases h
  case procStop => intro _ h; rw [(dead (fun _ => 0) [] 0 []).2.2.2] at h; cases h
  all_goals intros; rfl

/-- **a full close, whatever else is going on**: `close()` publishes the flag, the processor takes the
stop branch — with any run of other actors before, between and after — and from then on the cache is
frozen in the state the stop iteration left. -/
theorem close_then_anything (su : Nat → Nat → Bool) (c c1 : Cache) (id : Nat) (mid later : List Act)
    (hstop : (Cache.run su (c.closeBegin id).1 mid).procStop = some c1)
    (hopen : c.closed = false) :
    (Cache.run su c1 later).closed = true ∧ (Cache.run su c1 later).procExited = true ∧
    frozen (Cache.run su c1 later) = frozen c1 := by
  have h1 := run_closed_mono su mid _ (one_closer c id id hopen).2.1
  obtain ⟨-, rfl⟩ := Cache.procStop_some hstop
  exact closed_is_final su later _ h1 rfl

-- non-vacuity -------------------------------------------------------------------------------
def exCfg : Cfg := { itemSize := 56, ignoreInternal := false, bufCap := 4, ringCap := 2, pqCap := some 3, metricsOn := false }
example : ((Cache.init exCfg 100 5).closeBegin 1).1.closed = true := by decide
example : (({ Cache.init exCfg 100 5 with buf := [Item.wait 7], clearQ := [9] } : Cache).procStop.map (·.released)) = some [9, 7] := by rfl

end Stretto.C12

#print axioms Stretto.C12.closed_ops_inert
#print axioms Stretto.C12.one_closer
#print axioms Stretto.C12.stop_releases_everybody
#print axioms Stretto.C12.exited_processor_is_inert
#print axioms Stretto.C12.waiter_can_return_after_stop
#print axioms Stretto.C12.late_waiter_does_not_block
#print axioms Stretto.C12.closed_is_final
#print axioms Stretto.C12.close_then_anything
