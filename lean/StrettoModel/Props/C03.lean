import StrettoModel.Proofs.Deadlines
import StrettoModel.Props.C04
/-!
# C03 — TTL visibility: nothing is served after its TTL, nothing expires without one

Quantification: every store state, every key / conflict, every time `now` (nanoseconds, so every
placement relative to second boundaries), every TTL. `Time.d = 0` means "no TTL".
-/
namespace Stretto.C03
open Stretto

/-- **expired_invisible**: once `d > 0` nanoseconds have elapsed since the write that created the
resident entry, no lookup path serves it: `get`, `get_mut`, `get_ttl` all answer "absent". -/
theorem expired_invisible (s : Store) (k cf now : Nat) (e : Entry)
    (he : s.items.get k = some e) (hd : 0 < e.exp.d) (hexp : e.exp.created + e.exp.d ≤ now) :
    s.get k cf now = none ∧ s.getTtl k cf now = none ∧ (s.getMutWrite k cf now 0).2 = none := by
  have hl := Store.lookup_expired s k cf now e he hd hexp
  simp [Store.get, Store.getTtl, Store.getMutWrite, hl]

/-- the same through the cache's own `get` / `get_mut` / `get_ttl` -/
theorem cache_expired_invisible (c : Cache) (k cf now v : Nat) (e : Entry)
    (he : c.store.items.get k = some e) (hd : 0 < e.exp.d) (hexp : e.exp.created + e.exp.d ≤ now) :
    (c.get k cf now).2 = none ∧ c.getTtl k cf now = none ∧ (c.getMutWrite k cf now v).2 = none := by
  have hl := Store.lookup_expired c.store k cf now e he hd hexp
  simp [Cache.get_snd, Cache.getMutWrite_snd, Cache.getTtl, Store.get, Store.getTtl, hl]

/-- **ttl_remaining**: an entry served at `now` with TTL `d` reports exactly `d - (now - created)`,
which is positive, at most `d`, and never increases with time. -/
theorem ttl_remaining (s : Store) (k cf now : Nat) (e : Entry)
    (hl : s.lookup k cf now = some e) (hd : 0 < e.exp.d) (hc : e.exp.created ≤ now) :
    s.getTtl k cf now = some (some (e.exp.d - (now - e.exp.created))) ∧
    0 < e.exp.d - (now - e.exp.created) ∧ e.exp.d - (now - e.exp.created) ≤ e.exp.d := by
  -- a served entry with a TTL has not expired
  have hlt : now - e.exp.created < e.exp.d := by
    rcases (Store.lookup_some s k cf now e hl).2.2 with h0 | h1
    · exact absurd h0 (Nat.ne_of_gt hd)
    · exact Nat.lt_of_not_ge fun h => h1 ⟨hc, h⟩
  refine ⟨?_, Nat.sub_pos_of_lt hlt, Nat.sub_le _ _⟩
  simp [Store.getTtl, hl, Time.getTtl, Nat.ne_of_gt hd, Nat.not_le.mpr hlt]

theorem ttl_antitone (d created now now' : Nat) (h : now ≤ now') :
    d - (now' - created) ≤ d - (now - created) :=
  Nat.sub_le_sub_left (Nat.sub_le_sub_right h created) d

/-- **no_ttl_reports_none**: an entry written without TTL is visible at every time and reports
"no expiry" (`Duration::MAX`). -/
theorem no_ttl_never_invisible (s : Store) (k cf now : Nat) (e : Entry)
    (he : s.items.get k = some e) (hd : e.exp.d = 0) (hcf : Store.conflictOk cf e = true) :
    s.lookup k cf now = some e ∧ s.getTtl k cf now = some none := by
  have hl : s.lookup k cf now = some e := by
    unfold Store.lookup
    simp [he, hcf, Time.isZero, hd]
  exact ⟨hl, by simp [Store.getTtl, hl, Time.getTtl, hd]⟩

/-- **reinsert_replaces_deadline**: an insert of a resident key that passes the conflict check and
the validator stores exactly the new `(ttl, now)`: with a TTL the new deadline applies, without one
the entry no longer expires (and its value is the new one, at once). -/
theorem reinsert_replaces_deadline (s : Store) (su : Nat → Nat → Bool) (k v cf : Nat) (t : Time)
    (e : Entry) (he : s.items.get k = some e) (hcf : Store.conflictOk cf e = true)
    (hsu : su e.val v = true) :
    ((s.tryUpdate su k v cf t).1.items.get k) = some { e with val := v, exp := t } ∧
    (s.tryUpdate su k v cf t).2 = .update e.val := by
  unfold Store.tryUpdate
  simp [he, hcf, hsu]

/-- the clock value stored is the one of the call (`Time::now()` inside `try_update`) -/
theorem insert_records_now (c : Cache) (su : Nat → Nat → Bool) (k cf v : Nat) (cost : Int)
    (ttl now : Nat) (coster : Int) (e : Entry) (hopen : c.closed = false)
    (he : c.store.items.get k = some e) (hcf : Store.conflictOk cf e = true)
    (hsu : su e.val v = true) :
    ((c.insert su k cf v cost ttl now coster false).1.store.items.get k) =
      some { e with val := v, exp := { d := ttl, created := now } } :=
  (C04.update_applied_at_once c su k cf v cost ttl now coster e hopen he hcf hsu).1

/-- **a sweep never touches an entry without TTL or one that has not expired** (the re-check in
the sweep, independent of the bucket bookkeeping). -/
theorem sweep_only_expired (c : Cache) (now : Nat) (keys : List (Nat × Nat)) (acc : List CB)
    (j : Nat) (e : Entry) (he : c.store.items.get j = some e)
    (hlive : e.exp.d = 0 ∨ now < e.exp.created + e.exp.d) :
    (c.sweepKeys now keys acc).1.store.items.get j = some e :=
  C05.sweep_only_expired c now keys acc j e he hlive

-- non-vacuity -------------------------------------------------------------------------------
example : (Store.get { items := [(7, ⟨0, 42, ⟨1000, 5⟩⟩)], em := [] } 7 0 1004) = some 42 ∧
          (Store.get { items := [(7, ⟨0, 42, ⟨1000, 5⟩⟩)], em := [] } 7 0 1005) = none ∧
          (Store.getTtl { items := [(7, ⟨0, 42, ⟨1000, 5⟩⟩)], em := [] } 7 0 1004) = some (some 1) := by
  decide

-- "since that insert": the deadline in force is the one the write carried ---------------------------

/-- what a lookup serves at time `now` was written under that key with a deadline that has not passed -/
def Live (t : Time) (now : Nat) : Prop := t.d = 0 ∨ ¬ (now ≥ t.created ∧ now - t.created ≥ t.d)

theorem live_before_deadline (t : Time) (now : Nat) (h : Live t now) (hclock : t.created ≤ now) (hd : t.d ≠ 0) :
    now < t.created + t.d := by
  rcases h with h | h
  · exact absurd h hd
  · exact Nat.lt_of_not_ge fun h' => h ⟨hclock, Nat.le_sub_of_add_le' h'⟩

/-- after a run from the builder's state, the entry a lookup serves carries a value and the deadline of
one write of the run under that key, and that deadline has not passed -/
theorem run_lookup_live (su : Nat → Nat → Bool) (cfg : Cfg) (maxCost : Int) (samples : Nat) (acts : List Act)
    {k cf now : Nat} {e : Entry}
    (hl : (Cache.run su (Cache.init cfg maxCost samples) acts).store.lookup k cf now = some e) :
    (k, e.val, e.exp) ∈ Deadlines.writesExec su (Cache.init cfg maxCost samples) acts ∧ Live e.exp now := by
  have hp : Deadlines.ProvT (fun _ => true) [] (Cache.init cfg maxCost samples) :=
    ⟨fun k e _ he => by simp [Cache.init, Store.empty] at he, fun k cf cost v exp _ hm => by simp [Cache.init] at hm⟩
  obtain ⟨he, -, hlive⟩ := Store.lookup_some _ k cf now e hl
  exact ⟨(Deadlines.exec_provT su _ acts [] _ hp).resident k e rfl he, hlive⟩

/-- **never served after the TTL given with the value — over every run**: after any run of any actors
from the builder's state, whatever `get` returns for key `k` at time `now` is a value some call wrote
under `k`, and the deadline *that write carried* (an insert's own `(ttl, now)`; for a write through
`get_mut`, the deadline of the entry it overwrote) has not passed at `now` — vetoed re-inserts, other
keys sharing the second, cleanups, evictions and re-admissions in between notwithstanding. -/
theorem served_within_the_writers_ttl (su : Nat → Nat → Bool) (cfg : Cfg) (maxCost : Int) (samples : Nat)
    (acts : List Act) (k cf now v : Nat)
    (hget : ((Cache.run su (Cache.init cfg maxCost samples) acts).get k cf now).2 = some v) :
    ∃ t, (k, v, t) ∈ Deadlines.writesExec su (Cache.init cfg maxCost samples) acts ∧ Live t now := by
  rw [Cache.get_snd] at hget
  split at hget
  · cases hget
  · obtain ⟨e, hl, rfl⟩ := Option.map_eq_some_iff.mp hget
    exact ⟨e.exp, run_lookup_live su cfg maxCost samples acts hl⟩

/-- the same for the value `get_mut` hands out, and `get_ttl` reports the time left to the writer's
deadline -/
theorem get_mut_within_the_writers_ttl (su : Nat → Nat → Bool) (cfg : Cfg) (maxCost : Int) (samples : Nat)
    (acts : List Act) (k cf now w old : Nat)
    (hget : ((Cache.run su (Cache.init cfg maxCost samples) acts).getMutWrite k cf now w).2 = some old) :
    ∃ t, (k, old, t) ∈ Deadlines.writesExec su (Cache.init cfg maxCost samples) acts ∧ Live t now := by
  rw [Cache.getMutWrite_snd] at hget
  split at hget
  · cases hget
  · obtain ⟨e, hl, rfl⟩ := Option.map_eq_some_iff.mp hget
    exact ⟨e.exp, run_lookup_live su cfg maxCost samples acts hl⟩

theorem get_ttl_is_the_writers (su : Nat → Nat → Bool) (cfg : Cfg) (maxCost : Int) (samples : Nat)
    (acts : List Act) (k cf now : Nat) (r : Option Nat)
    (hget : (Cache.run su (Cache.init cfg maxCost samples) acts).getTtl k cf now = some r) :
    ∃ v t, (k, v, t) ∈ Deadlines.writesExec su (Cache.init cfg maxCost samples) acts ∧ Live t now ∧
      r = t.getTtl now := by
  obtain ⟨e, hl, rfl⟩ := Option.map_eq_some_iff.mp hget
  have h := run_lookup_live su cfg maxCost samples acts hl
  exact ⟨e.val, e.exp, h.1, h.2, rfl⟩


-- non-vacuity: a key inserted with a 5 ns TTL at time 10, re-inserted under a vetoing validator with no TTL:
-- the value served at time 12 is the first one and its writer's deadline (15) has not passed
def exCfg3 : Cfg := { itemSize := 56, ignoreInternal := false, bufCap := 4, ringCap := 2, pqCap := some 3, metricsOn := false }
def exActs3 : List Act := [.insert 3 0 77 1 5 10 0 false, .procItem (fun _ => 0) [], .insert 3 0 78 1 0 11 0 false]
example : ((Cache.run (fun _ _ => false) (Cache.init exCfg3 1000 5) exActs3).get 3 0 12).2 = some 77 := by decide
example : ((Cache.run (fun _ _ => false) (Cache.init exCfg3 1000 5) exActs3).get 3 0 15).2 = none := by decide
example : (Deadlines.writesExec (fun _ _ => false) (Cache.init exCfg3 1000 5) exActs3).map
    (fun p => (p.1, p.2.1, p.2.2.d, p.2.2.created)) = [(3, 77, 5, 10), (3, 78, 0, 11)] := by decide

end Stretto.C03

#print axioms Stretto.C03.expired_invisible
#print axioms Stretto.C03.cache_expired_invisible
#print axioms Stretto.C03.ttl_remaining
#print axioms Stretto.C03.ttl_antitone
#print axioms Stretto.C03.no_ttl_never_invisible
#print axioms Stretto.C03.reinsert_replaces_deadline
#print axioms Stretto.C03.insert_records_now
#print axioms Stretto.C03.sweep_only_expired
#print axioms Stretto.C03.served_within_the_writers_ttl
#print axioms Stretto.C03.get_mut_within_the_writers_ttl
#print axioms Stretto.C03.get_ttl_is_the_writers
