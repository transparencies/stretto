import StrettoModel.Model.Keys
import StrettoModel.Proofs.Step
import StrettoModel.Props.C02
/-!
# C18 — Keys hash deterministically and colliding keys stay isolated

Not modelled: `seahash` / `xxh64` (the default key builder) and that `String` and `&str` hash alike
(a guarantee of `std`): both are sampled by the harness for determinism only.
-/
namespace Stretto.C18
open Stretto

/-- every supported key type lies in `[-2^63, 2^64)` and spans fewer than `2^64` values -/
theorem intTy_bounds (t : IntTy) : -9223372036854775808 ≤ t.lo ∧ t.hi < 18446744073709551616 ∧
    t.hi - t.lo < 18446744073709551616 := by
  cases t <;> decide

/-- `as u64` of an integer in `[-2^64, 2^64)`: itself, or its two's-complement image -/
theorem transparentIndex_eq (x : Int) (hlo : -18446744073709551616 ≤ x)
    (hhi : x < 18446744073709551616) :
    transparentIndex x = (if 0 ≤ x then x else x + 18446744073709551616).toNat := by
  unfold transparentIndex
  split
  · rw [Int.emod_eq_of_lt ‹_› hhi]
  · rw [← Int.add_emod_right, Int.emod_eq_of_lt (by omega) (by omega)]

/-- **transparent_identity**: every integer key of every supported type maps to itself — for the
signed types to its two's-complement image — with conflict hash 0; `build_key` is a function, so
the same key always gives the same pair. -/
theorem transparent_identity (t : IntTy) (x : Int) (h : t.InRange x) :
    transparentBuildKey x = ((if 0 ≤ x then x else x + 18446744073709551616).toNat, 0) := by
  obtain ⟨hlo, hhi⟩ := h
  obtain ⟨_, _, _⟩ := intTy_bounds t
  exact congrArg (·, 0) (transparentIndex_eq x (by omega) (by omega))

theorem eq_of_emod_eq {m x y : Int} (h : x % m = y % m) (hxy : x - y < m) (hyx : y - x < m) :
    x = y := by
  have hd : m ∣ x - y := Int.dvd_of_emod_eq_zero (Int.emod_eq_emod_iff_emod_sub_eq_zero.mp h)
  have := Int.eq_zero_of_dvd_of_natAbs_lt_natAbs hd (by omega)
  omega

/-- `as u64` is injective on every window narrower than `2^64` -/
theorem transparentIndex_inj (x y : Int) (h : transparentIndex x = transparentIndex y)
    (hxy : x - y < 18446744073709551616) (hyx : y - x < 18446744073709551616) : x = y := by
  have hcast : ∀ z, (transparentIndex z : Int) = z % 18446744073709551616 := fun z =>
    Int.toNat_of_nonneg (Int.emod_nonneg z (by decide))
  exact eq_of_emod_eq (hcast x ▸ hcast y ▸ congrArg Int.ofNat h) hxy hyx

/-- **transparent_injective**: distinct keys of one integer type never collide on the index -/
theorem transparent_injective (t : IntTy) (x y : Int) (hx : t.InRange x) (hy : t.InRange y)
    (h : transparentIndex x = transparentIndex y) : x = y := by
  obtain ⟨_, _⟩ := hx
  obtain ⟨_, _⟩ := hy
  have := (intTy_bounds t).2.2
  exact transparentIndex_inj x y h (by omega) (by omega)

/-- the conflict hash of a colliding key — not the stored one, not the wildcard 0 — fails the store's check -/
theorem conflictOk_colliding {c2 : Nat} {e : Entry} (hne : c2 ≠ e.conflict) (hnz : c2 ≠ 0) :
    Store.conflictOk c2 e = false := by
  simp [Store.conflictOk, hne, hnz]

/-- **collision_isolated (lookups)**: with a resident entry of key `(k, c₁)`, every lookup issued for
a colliding key `(k, c₂)`, `c₂ ≠ c₁`, `c₂ ≠ 0`, finds nothing: it never returns the other's value or
TTL, and `get_mut` cannot write to it. -/
theorem collision_lookup_isolated (s : Store) (k c2 now v : Nat) (e : Entry)
    (he : s.items.get k = some e) (hne : c2 ≠ e.conflict) (hnz : c2 ≠ 0) :
    s.get k c2 now = none ∧ s.getTtl k c2 now = none ∧ s.getMutWrite k c2 now v = (s, none) := by
  have hl : s.lookup k c2 now = none := by simp [Store.lookup, he, conflictOk_colliding hne hnz]
  simp [Store.get, Store.getTtl, Store.getMutWrite, hl]

/-- **collision_isolated (writes and removes)**: an update, a processor insert or a remove issued
for the colliding key leaves the store — the other key's value, TTL and expiry filing — untouched -/
theorem collision_write_isolated (s : Store) (su : Nat → Nat → Bool) (k c2 v : Nat) (t : Time) (e : Entry)
    (he : s.items.get k = some e) (hne : c2 ≠ e.conflict) (hnz : c2 ≠ 0) :
    s.tryUpdate su k v c2 t = (s, .conflict) ∧ s.tryInsert su k v c2 t = s ∧
    s.tryRemove k c2 = (s, none) := by
  simp [Store.tryUpdate, Store.tryInsert, Store.tryRemove, he, conflictOk_colliding hne hnz]

/-- through the cache: a `remove` for the colliding key does not touch the resident entry, neither
at once nor when the processor applies the queued `Delete` (the charge stays too) -/
theorem collision_remove_isolated (c : Cache) (su : Nat → Nat → Bool) (est : Nat → Int)
    (refills : List (List (Nat × Int))) (k c2 : Nat) (e : Entry)
    (he : c.store.items.get k = some e) (hne : c2 ≠ e.conflict) (hnz : c2 ≠ 0) :
    (c.remove k c2).1.store = c.store ∧
    (c.handleItem su est refills (Item.delete k c2)).store = c.store ∧
    (c.handleItem su est refills (Item.delete k c2)).lfu = c.lfu := by
  -- the queued `Delete` finds the entry, fails the conflict check and does nothing at all
  have hd : c.handleItem su est refills (Item.delete k c2) = c := by
    rcases Cache.handleItem_delete_cases c su est refills k c2 with ⟨hg, -⟩ | ⟨e', hg, ⟨-, h⟩ | ⟨hc, -⟩⟩
    · rw [he] at hg; cases hg
    · exact h
    · rw [he] at hg; cases hg; rw [conflictOk_colliding hne hnz] at hc; cases hc
  refine ⟨?_, by rw [hd], by rw [hd]⟩
  rcases Bool.eq_false_or_eq_true c.closed with h | h
  · simp [Cache.remove, h]
  · rw [Cache.remove_eq c k c2 h, (collision_write_isolated c.store su k c2 0 ⟨0, 0⟩ e he hne hnz).2.2]

-- over every step of every actor ------------------------------------------------------------------

/-- **a colliding key never touches the other key's entry — over every step of every actor**: while an
index hash stays resident, its entry (conflict hash, value, TTL) changes only when that very step is a
client write — `insert` / `insert_if_present` (update in place) or a write through `get_mut` — addressed
to that index *with a compatible conflict hash* (the stored one, or the wildcard 0). A caller presenting
another conflict hash — the colliding key — changes nothing under the index, whatever it calls and
whenever the processor applies what it queued (`New`, `Update`, `Delete` items, stale ones included); nor
do the sweep, evictions of other keys, clears or the workers. (`Inv06`, every resident entry is charged,
holds in every reachable state: C06.) -/
theorem entry_changes_only_by_compatible_write (su : Nat → Nat → Bool) (c c' : Cache) (a : Act)
    (hs : c.step su a = some c') (hinv : Inv06 c) (k : Nat) (e e' : Entry)
    (he : c.store.items.get k = some e) (he' : c'.store.items.get k = some e') (hne : e' ≠ e) :
    (∃ cf v cost ttl now coster only, a = Act.insert k cf v cost ttl now coster only ∧ Store.conflictOk cf e = true) ∨
    (∃ cf now v, a = Act.getMut k cf now v ∧ Store.conflictOk cf e = true) := by
  have hk := step_entry hs k
  rw [he'] at hk
  generalize hx : some e' = x at hk
  cases hk with
  | same => rw [he] at hx; cases hx; exact absurd rfl hne
  | gone => cases hx
  | update hg hc => rw [he] at hg; cases hg; exact Or.inl ⟨_, _, _, _, _, _, _, rfl, hc⟩
  | write hl =>
    obtain ⟨hg, hc, -⟩ := Store.lookup_some _ _ _ _ _ hl
    rw [he] at hg; cases hg; exact Or.inr ⟨_, _, _, rfl, hc⟩
  | admit _ hadd =>
    -- a resident key is charged (C06), and the policy never adds a charged key
    have hch := hinv.resident_charged k (by simp [he])
    rw [((policyAdd_spec _ _ _ _ _ hinv.lfuInv).admitted hadd).2.2] at hch
    cases hch

/-- corollary: whatever a caller presenting another (non-zero) conflict hash does in one step, the entry
under the index is the same afterwards if the index is still resident -/
theorem colliding_caller_leaves_entry (su : Nat → Nat → Bool) (c c' : Cache) (hinv : Inv06 c) (k c2 : Nat) (e e' : Entry)
    (he : c.store.items.get k = some e) (hne : c2 ≠ e.conflict) (hnz : c2 ≠ 0) (a : Act)
    (ha : (∃ v cost ttl now coster only, a = Act.insert k c2 v cost ttl now coster only) ∨
          (∃ now v, a = Act.getMut k c2 now v) ∨ (∃ now, a = Act.get k c2 now) ∨ a = Act.remove k c2)
    (hs : c.step su a = some c') (he' : c'.store.items.get k = some e') : e' = e := by
  have hok := conflictOk_colliding hne hnz
  refine Decidable.by_contra fun hne' => ?_
  -- a changed entry means that `a` wrote with a conflict hash the entry accepts; of the four shapes `a` may
  -- have, only the matching one survives `cases`, and it presents `c2`
  rcases entry_changes_only_by_compatible_write su c c' a hs hinv k e e' he he' hne' with
    ⟨cf, _, _, _, _, _, _, rfl, hc⟩ | ⟨cf, _, _, rfl, hc⟩
  · obtain ⟨_, _, _, _, _, _, h⟩ | ⟨_, _, h⟩ | ⟨_, h⟩ | h := ha <;> cases h
    rw [hok] at hc; cases hc
  · obtain ⟨_, _, _, _, _, _, h⟩ | ⟨_, _, h⟩ | ⟨_, h⟩ | h := ha <;> cases h
    rw [hok] at hc; cases hc

/-- the same in every reachable state (the invariant is C06's): from the builder's state, after any run of
any actors with the processor alive, a step changes a resident entry only if it is a client write to
that index with a compatible conflict hash -/
theorem reachable_entry_changes_only_by_compatible_write (su : Nat → Nat → Bool) (cfg : Cfg) (maxCost : Int)
    (samples : Nat) (c : Cache) (hr : C06.Run su (Cache.init cfg maxCost samples) c) (halive : c.procExited = false)
    (c' : Cache) (a : Act) (hs : c.step su a = some c') (k : Nat) (e e' : Entry)
    (he : c.store.items.get k = some e) (he' : c'.store.items.get k = some e') (hne : e' ≠ e) :
    (∃ cf v cost ttl now coster only, a = Act.insert k cf v cost ttl now coster only ∧ Store.conflictOk cf e = true) ∨
    (∃ cf now v, a = Act.getMut k cf now v ∧ Store.conflictOk cf e = true) := by
  rcases C06.reachable_good su _ c (C06.init_good cfg maxCost samples) hr with hx | hinv
  · rw [halive] at hx; cases hx
  · exact entry_changes_only_by_compatible_write su c c' a hs hinv k e e' he he' hne

-- non-vacuity ---------------------------------------------------------------------------------
example : transparentBuildKey (-1) = (18446744073709551615, 0) := by decide
example : IntTy.i8.InRange (-128) ∧ transparentIndex (-128) = 18446744073709551488 := by
  refine ⟨⟨by decide, by decide⟩, by decide⟩

/-- a reachable state with a resident entry under (5, conflict 1), and a colliding caller (5, conflict 2)
whose update is refused: the premises of the run-level theorems are met by a concrete history -/
def exCfg : Cfg := { itemSize := 56, ignoreInternal := true, bufCap := 4, ringCap := 2, pqCap := some 3, metricsOn := true }
def exC1 : Cache := ((Cache.init exCfg 100 5).insert (fun _ _ => true) 5 1 77 1 0 10 0 false).1
def exC2 : Cache := ((exC1.procItem (fun _ _ => true) (fun _ => 0) []).getD exC1)
example : exC2.store.items.get 5 = some ⟨1, 77, ⟨0, 10⟩⟩ := by decide
example : exC2.procExited = false := by decide
example : ((exC2.insert (fun _ _ => true) 5 2 99 1 0 11 0 false).1.store.items.get 5) = some ⟨1, 77, ⟨0, 10⟩⟩ := by decide
example : C06.Run (fun _ _ => true) (Cache.init exCfg 100 5) exC2 := by
  refine C06.Run.step _ exC1 _ (.procItem (fun _ => 0) []) (C06.Run.step _ _ _ (.insert 5 1 77 1 0 10 0 false) (C06.Run.refl _) trivial rfl) ?_ ?_
  · intro it rest hb
    have : exC1.buf = [Item.new 5 1 1 77 ⟨0, 10⟩] := by decide
    rw [this] at hb; cases hb
    intro vs hvs v hv
    have h0 : (policyAdd (({ exC1 with buf := [] } : Cache).admitPending).lfu (fun _ => 0) 5
      ((({ exC1 with buf := [] } : Cache).admitPending).internalCost 1) []).victims = none := by decide
    rw [h0] at hvs; cases hvs
  · show exC1.procItem (fun _ _ => true) (fun _ => 0) [] = some exC2
    have hsome : (exC1.procItem (fun _ _ => true) (fun _ => 0) []).isSome = true := by decide
    cases hp : exC1.procItem (fun _ _ => true) (fun _ => 0) [] with
    | none => rw [hp] at hsome; cases hsome
    | some c => simp [exC2, hp]

end Stretto.C18

#print axioms Stretto.C18.transparent_identity
#print axioms Stretto.C18.transparent_injective
#print axioms Stretto.C18.collision_lookup_isolated
#print axioms Stretto.C18.collision_write_isolated
#print axioms Stretto.C18.collision_remove_isolated
#print axioms Stretto.C18.entry_changes_only_by_compatible_write
#print axioms Stretto.C18.colliding_caller_leaves_entry
#print axioms Stretto.C18.reachable_entry_changes_only_by_compatible_write
