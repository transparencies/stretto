import StrettoModel.Props.C15
/-!
# C19 — AsyncCache behaves exactly like Cache

In the model the two flavours are one transition system; they differ in a single configuration
field, the capacity of the policy's get-batch queue (`pqCap = some 3` for `Cache`, `none` for
`AsyncCache`). (Both `remove`s wait for room in the insert buffer, both `close()`s rendezvous with
the workers; the stop channel's capacity, 0 vs 1, is below the model's granularity.) Every theorem
of C01–C18/C20 quantifies over all `Cfg`, hence holds for both flavours. The theorems here show that
the queue capacity cannot influence anything a client observes except the `gets_kept` /
`gets_dropped` split and, through lost batches, the popularity estimates (which are oracle inputs).
That the real `AsyncCache` follows the model is checked differentially against `Cache` on three
executors by the harness (a test, not a proof).
-/
namespace Stretto.C19
open Stretto

/-- the same state seen with another policy-queue capacity -/
def withQ (c : Cache) (q : Option Nat) : Cache := { c with cfg := { c.cfg with pqCap := q } }

/-!
An operation that never reads `cfg.pqCap` commutes with `withQ`. Every `…_withQ` proof below is that
remark: unfold the operation (or take its closed form from `Proofs/Cache.lean`), let `withQ_frame` turn
what it reads of `withQ c q` into what it reads of `c`, and write `met` as a record update; both sides
then branch on the same values, and in every branch they are the same record up to `withQ`, by `rfl`.
In a composite operation the lemmas of the parts are used from right to left: `withQ (f c) q` always
matches, whereas `f { withQ c q with … }` is an instance of `f (withQ _ q)` only up to unfolding.
-/
section commute
variable (c : Cache) (q : Option Nat)

@[simp] theorem withQ_frame :
    (withQ c q).cfg = { c.cfg with pqCap := q } ∧ (withQ c q).store = c.store ∧ (withQ c q).lfu = c.lfu ∧
    (withQ c q).buf = c.buf ∧ (withQ c q).pendingSends = c.pendingSends ∧ (withQ c q).clearQ = c.clearQ ∧
    (withQ c q).ring = c.ring ∧ (withQ c q).pq = c.pq ∧ (withQ c q).metrics = c.metrics ∧
    (withQ c q).tracked = c.tracked ∧ (withQ c q).closed = c.closed ∧
    (withQ c q).policyClosed = c.policyClosed ∧ (withQ c q).procExited = c.procExited ∧
    (withQ c q).released = c.released ∧ (withQ c q).cbs = c.cbs ∧
    ∀ cost, (withQ c q).internalCost cost = c.internalCost cost := by
  and_intros <;> intros <;> rfl

theorem withQ_met (f : Metrics → Metrics) : (withQ c q).met f = withQ (c.met f) q := by
  rw [Cache.met_eq, Cache.met_eq]; rfl

theorem insert_withQ (su : Nat → Nat → Bool) (k cf v : Nat) (cost : Int) (ttl now : Nat) (coster : Int)
    (only : Bool) :
    (withQ c q).insert su k cf v cost ttl now coster only =
      Prod.map (withQ · q) id (c.insert su k cf v cost ttl now coster only) := by
  unfold Cache.insert Cache.insertBody
  simp only [withQ_frame, Cache.met_eq]
  generalize c.store.tryUpdate su k v cf ⟨ttl, now⟩ = r
  generalize (only && (c.store.get k cf now).isNone) = absent
  generalize (decide (c.buf.length < c.cfg.bufCap) && !c.procExited) = room
  cases c.closed with
  | true => rfl
  | false =>
    cases absent with
    | true => rfl
    | false => cases r.2 <;> cases room <;> cases only <;> rfl

theorem remove_withQ (k cf : Nat) : (withQ c q).remove k cf = Prod.map (withQ · q) id (c.remove k cf) := by
  cases h : c.closed with
  | true => simp only [Cache.remove, withQ_frame, h, if_true]; rfl
  | false => rw [Cache.remove_eq c k cf h, Cache.remove_eq (withQ c q) k cf h]; rfl

theorem protocol_withQ (w : Nat) :
    (withQ c q).waitEnq w = Prod.map (withQ · q) id (c.waitEnq w) ∧
    (withQ c q).clearReq w = Prod.map (withQ · q) id (c.clearReq w) ∧
    (withQ c q).closeBegin w = Prod.map (withQ · q) id (c.closeBegin w) := by
  unfold Cache.waitEnq Cache.clearReq Cache.closeBegin
  simp only [withQ_frame, apply_ite (Prod.map (withQ · q) id)]
  exact ⟨rfl, rfl, rfl⟩

/-- lookups read the flavour in `ringPush` only -/
theorem get_withQ (k cf now : Nat) (hr : (withQ c q).ringPush k = withQ (c.ringPush k) q) :
    (withQ c q).get k cf now = Prod.map (withQ · q) id (c.get k cf now) := by
  unfold Cache.get
  simp only [withQ_frame, hr, withQ_met]
  cases c.closed with
  | true => rfl
  | false => cases (c.ringPush k).store.get k cf now <;> rfl

theorem getMutWrite_withQ (k cf now v : Nat) (hr : (withQ c q).ringPush k = withQ (c.ringPush k) q) :
    (withQ c q).getMutWrite k cf now v = Prod.map (withQ · q) id (c.getMutWrite k cf now v) := by
  unfold Cache.getMutWrite
  simp only [withQ_frame, hr, Cache.met_eq]
  cases c.closed with
  | true => rfl
  | false => cases ((c.ringPush k).store.getMutWrite k cf now v).2 <;> rfl

theorem admitPending_withQ : (withQ c q).admitPending = withQ c.admitPending q := by
  unfold Cache.admitPending
  simp only [withQ_frame]
  cases c.pendingSends with
  | nil => rfl
  | cons it rest => simp only [apply_ite (withQ · q)]; rfl

theorem evictVictims_withQ (vs : List (Nat × Int)) : (withQ c q).evictVictims vs = withQ (c.evictVictims vs) q := by
  simp only [Cache.evictVictims_eq_foldl]
  refine List.foldl_hom (withQ · q) fun c p => ?_
  simp only [Cache.evictOne, Cache.evictVictims, withQ_frame, Cache.met_eq]
  cases (c.store.tryRemove p.1 0).2 with
  | none => rfl
  | some e => cases c.tracked.contains p.1 <;> rfl

theorem handleItem_withQ (su : Nat → Nat → Bool) (est : Nat → Int) (refills : List (List (Nat × Int))) (it : Item) :
    (withQ c q).handleItem su est refills it = withQ (c.handleItem su est refills it) q := by
  cases it with
  | wait w => rfl
  | update k cost ext => simp only [Cache.handleItem_update, Cache.met_eq]; rfl
  | delete k cf =>
    simp only [Cache.handleItem, withQ_frame, Cache.met_eq]
    generalize c.store.tryRemove k cf = r
    cases (r.1.expiration k).isNone <;> cases r.2 <;> rfl
  | new k cf cost v exp =>
    simp only [Cache.handleItem_new, ← Cache.evictVictims_eq_foldl, ← evictVictims_withQ, withQ_frame, Cache.met_eq]
    cases (policyAdd c.lfu est k (c.internalCost cost) refills).added <;> rfl

theorem sweepOne_withQ (now k cf : Nat) :
    (withQ c q).sweepOne now k cf = Prod.map (withQ · q) id (c.sweepOne now k cf) := by
  unfold Cache.sweepOne
  simp only [withQ_frame, Cache.met_eq]
  cases c.store.expiration k with
  | none => rfl
  | some t => dsimp only; cases (!t.isZero && t.isExpired now) <;> cases (c.store.tryRemove k cf).2 <;> rfl

theorem sweepKeys_withQ (keys : List (Nat × Nat)) (now : Nat) (acc : List CB) :
    (withQ c q).sweepKeys now keys acc = Prod.map (withQ · q) id (c.sweepKeys now keys acc) := by
  induction keys generalizing c acc with
  | nil => rfl
  | cons p rest ih => simp only [Cache.sweepKeys, sweepOne_withQ, Prod.map_fst, Prod.map_snd, id, ih]

theorem deliverEvictions_withQ (cbs : List CB) :
    (withQ c q).deliverEvictions cbs = withQ (c.deliverEvictions cbs) q := by
  induction cbs generalizing c with
  | nil => rfl
  | cons cb rest ih =>
    simp only [Cache.deliverEvictions, ← ih]
    congr 1
    cases cb with
    | evict k cf v cost => simp only [withQ_frame, Cache.met_eq]; cases c.tracked.contains k <;> rfl
    | _ => rfl

theorem drain_withQ (items : List Item) :
    items.foldl Cache.drainItem (withQ c q) = withQ (items.foldl Cache.drainItem c) q :=
  List.foldl_hom (withQ · q) fun c it => by cases it <;> rfl

theorem procItem_withQ (su : Nat → Nat → Bool) (est : Nat → Int) (refills : List (List (Nat × Int))) :
    (withQ c q).procItem su est refills = (c.procItem su est refills).map (withQ · q) := by
  unfold Cache.procItem
  simp only [withQ_frame]
  cases c.procExited with
  | true => rfl
  | false =>
    cases c.buf with
    | nil => rfl
    | cons it rest =>
      show some _ = some (withQ _ q)
      rw [← handleItem_withQ, ← admitPending_withQ]; rfl

theorem procClear_withQ : (withQ c q).procClear = c.procClear.map (withQ · q) := by
  unfold Cache.procClear
  simp -zeta only [withQ_frame]
  -- not `cases c.procExited`, here and in `procTick_withQ`: it would also rewrite the field inside `{ c with … }`
  split
  · rfl
  · cases c.clearQ with
    | nil => rfl
    | cons w rest =>
      exact congrArg
        (fun d : Cache => some { d with lfu := d.lfu.clear, store := d.store.clear, metrics := {}, released := w :: d.released })
        (drain_withQ { c with buf := [], clearQ := rest } q c.buf)

theorem procTick_withQ (now : Nat) (order : List (Nat × Nat)) :
    (withQ c q).procTick now order = (c.procTick now order).map (withQ · q) := by
  unfold Cache.procTick
  simp only [withQ_frame]
  split
  · rfl
  · have h := sweepKeys_withQ { c with store := { c.store with em := (c.store.em.tryCleanup now).1 } } q order now []
    exact congrArg some ((congrArg (fun r => r.1.deliverEvictions r.2.reverse) h).trans (deliverEvictions_withQ ..))

theorem procStop_withQ : (withQ c q).procStop = c.procStop.map (withQ · q) := by
  unfold Cache.procStop
  simp only [withQ_frame]
  cases c.procExited <;> rfl

/-- the flavours take the same step wherever `ringPush` treats them alike -/
theorem step_withQ (su : Nat → Nat → Bool) (hr : ∀ k, (withQ c q).ringPush k = withQ (c.ringPush k) q) (a : Act) :
    (withQ c q).step su a = (c.step su a).map (withQ · q) := by
  cases a with
  | insert => exact congrArg (some ·.1) (insert_withQ ..)
  | get k cf now => exact congrArg (some ·.1) (get_withQ c q k cf now (hr k))
  | getMut k cf now v => exact congrArg (some ·.1) (getMutWrite_withQ c q k cf now v (hr k))
  | remove => exact congrArg (some ·.1) (remove_withQ ..)
  | waitEnq w => exact congrArg (some ·.1) (protocol_withQ c q w).1
  | clearReq w => exact congrArg (some ·.1) (protocol_withQ c q w).2.1
  | closeBegin w => exact congrArg (some ·.1) (protocol_withQ c q w).2.2
  | updateMaxCost => rfl
  | procItem => exact procItem_withQ ..
  | procClear => exact procClear_withQ ..
  | procTick => exact procTick_withQ ..
  | procStop => exact procStop_withQ ..
  | policyWorker => unfold Cache.step Cache.policyWorkerStep; simp only [withQ_frame]; cases c.pq <;> rfl
  | policyClose => rfl

end commute

/-- **lookups do not depend on the flavour**: what `get` returns is determined by `is_closed`, the
store and the clock alone -/
theorem get_result_flavour_independent (c : Cache) (q : Option Nat) (k cf now : Nat) :
    ((withQ c q).get k cf now).2 = (c.get k cf now).2 ∧
    (c.get k cf now).2 = if c.closed then none else c.store.get k cf now := by
  have h : ∀ d : Cache, (d.get k cf now).2 = if d.closed then none else d.store.get k cf now := by
    intro d
    cases hd : d.closed with
    | true => simp only [Cache.get, hd, if_true]
    | false => rw [Cache.get_eq d k cf now hd]; rfl
  exact ⟨by rw [h, h]; rfl, h c⟩

theorem get_ttl_flavour_independent (c : Cache) (q : Option Nat) (k cf now : Nat) :
    (withQ c q).getTtl k cf now = c.getTtl k cf now := rfl

/-- **writes do not depend on the flavour**: `insert` / `insert_if_present` / `remove` / `wait` /
`clear` / `close` never read the queue capacity: same answer, same successor state -/
theorem insert_flavour_independent (c : Cache) (q : Option Nat) (su : Nat → Nat → Bool) (k cf v : Nat)
    (cost : Int) (ttl now : Nat) (coster : Int) (only : Bool) :
    ((withQ c q).insert su k cf v cost ttl now coster only).2 = (c.insert su k cf v cost ttl now coster only).2 ∧
    ((withQ c q).insert su k cf v cost ttl now coster only).1 =
      withQ (c.insert su k cf v cost ttl now coster only).1 q := by
  rw [insert_withQ]; exact ⟨rfl, rfl⟩

theorem remove_flavour_independent (c : Cache) (q : Option Nat) (k cf : Nat) :
    ((withQ c q).remove k cf).2 = (c.remove k cf).2 ∧
    ((withQ c q).remove k cf).1 = withQ (c.remove k cf).1 q := by
  rw [remove_withQ]; exact ⟨rfl, rfl⟩

theorem protocol_flavour_independent (c : Cache) (q : Option Nat) (id : Nat) :
    ((withQ c q).waitEnq id).2 = (c.waitEnq id).2 ∧ ((withQ c q).clearReq id).2 = (c.clearReq id).2 ∧
    ((withQ c q).closeBegin id).2 = (c.closeBegin id).2 ∧
    (withQ c q).mayReturn id true = c.mayReturn id true := by
  obtain ⟨h1, h2, h3⟩ := protocol_withQ c q id
  rw [h1, h2, h3]; exact ⟨rfl, rfl, rfl, rfl⟩

/-- **the processor does not depend on the flavour**: clear and stop iterations never read the queue
capacity (nor do item and tick iterations: `procItem_withQ`, `procTick_withQ`) -/
theorem processor_flavour_independent (c : Cache) (q : Option Nat) (now : Nat) (order : List (Nat × Nat)) :
    (withQ c q).procClear = c.procClear.map (withQ · q) ∧ (withQ c q).procStop = c.procStop.map (withQ · q) :=
  ⟨procClear_withQ c q, procStop_withQ c q⟩

/-- the only place the flavour matters: a full bounded queue drops a batch, the unbounded one keeps it -/
theorem flavour_difference_is_the_queue (c : Cache) (k : Nat) (hq : c.cfg.pqCap = none) :
    (c.ringPush k).metrics.dropGets = c.metrics.dropGets :=
  C15.unbounded_queue_never_drops c k hq

-- same operations, quiescence between them -------------------------------------------------------

/-- with nothing queued for the policy worker a bounded queue of capacity ≥ 1 takes the batch just as
the unbounded one does -/
theorem ringPush_withQ_quiescent (c : Cache) (n : Nat) (hn : 0 < n) (hasync : c.cfg.pqCap = none)
    (hq : c.pq = []) (k : Nat) :
    (withQ c (some n)).ringPush k = withQ (c.ringPush k) (some n) := by
  unfold Cache.ringPush
  simp only [withQ_frame, hasync, hq, List.length_nil, hn, decide_true, if_true, Cache.met_eq,
    apply_ite (withQ · (some n))]
  rfl

/-- **at a quiescent point the two flavours take the same step**: from a state with no batch queued
for the policy worker, every action of every actor leads `Cache` (bounded queue, any capacity ≥ 1) and
`AsyncCache` (unbounded queue) to the same successor state (up to that one configuration field) and is
enabled in the one iff it is in the other. -/
theorem quiescent_step_agrees (su : Nat → Nat → Bool) (c : Cache) (n : Nat) (hn : 0 < n)
    (hasync : c.cfg.pqCap = none) (hq : c.pq = []) (a : Act) :
    (withQ c (some n)).step su a = (c.step su a).map (withQ · (some n)) :=
  step_withQ c (some n) su (ringPush_withQ_quiescent c n hn hasync hq) a

/-- the policy worker has consumed every queued batch -/
def settle (c : Cache) : Cache := { c with pq := [] }

theorem settle_is_worker_run (su : Nat → Nat → Bool) (c : Cache) :
    Cache.run su c (List.replicate c.pq.length Act.policyWorker) = settle c := by
  generalize hp : c.pq = l
  induction l generalizing c with
  | nil => cases c; cases hp; rfl
  | cons b rest ih =>
    have hs : c.step su .policyWorker = some { c with pq := rest } := by
      simp only [Cache.step, Cache.policyWorkerStep, hp, Option.map_some]
    simp only [List.length_cons, List.replicate_succ, Cache.run, hs, Option.getD_some]
    exact ih { c with pq := rest } rfl

/-- a history "with quiescence between the operations": after every action the policy worker catches up -/
def seqRun (su : Nat → Nat → Bool) : Cache → List Act → Cache
  | c, [] => c
  | c, a :: rest => seqRun su (settle ((c.step su a).getD c)) rest

/-- **C19 in the model**: for the same sequence of operations with quiescence between them — any
client calls, any processor iterations, ticks, clears, close — the two flavours go through the same
states: every return value, the store, the remaining TTLs, the callback log and every metrics counter
are equal after every operation (they are all read off the state; the per-call answers are the
`…_flavour_independent` theorems above). In particular a bounded queue never drops a batch on such a
history. -/
theorem flavours_agree_with_quiescence (su : Nat → Nat → Bool) (n : Nat) (hn : 0 < n) (acts : List Act) :
    ∀ (c : Cache), c.cfg.pqCap = none → c.pq = [] →
      seqRun su (withQ c (some n)) acts = withQ (seqRun su c acts) (some n) := by
  induction acts with
  | nil => intro c _ _; rfl
  | cons a rest ih =>
    intro c hasync hq
    have hcfg : ((c.step su a).getD c).cfg = c.cfg := by
      cases hs : c.step su a with
      | none => rfl
      | some c' => exact step_cfg su c c' a hs
    rw [seqRun, seqRun, quiescent_step_agrees su c n hn hasync hq a, Option.getD_map (withQ · (some n))]
    exact ih (settle ((c.step su a).getD c)) (hcfg ▸ hasync) rfl

-- non-vacuity: a freshly built AsyncCache meets the premises, and on a history with lookups (ring of 2,
-- so batches are flushed) the bounded flavour ends with the same counters
def exCfgA : Cfg := { itemSize := 56, ignoreInternal := false, bufCap := 4, ringCap := 2, pqCap := none, metricsOn := true }
def exHist : List Act :=
  [.insert 3 0 77 10 0 5 0 false, .procItem (fun _ => 0) [], .get 3 0 6, .get 4 0 6, .get 3 0 7, .get 3 0 8]
example : (Cache.init exCfgA 100 5).cfg.pqCap = none ∧ (Cache.init exCfgA 100 5).pq = [] := ⟨rfl, rfl⟩
example : ((seqRun (fun _ _ => true) (withQ (Cache.init exCfgA 100 5) (some 1)) exHist).metrics.keepGets,
           (seqRun (fun _ _ => true) (withQ (Cache.init exCfgA 100 5) (some 1)) exHist).metrics.dropGets,
           (seqRun (fun _ _ => true) (withQ (Cache.init exCfgA 100 5) (some 1)) exHist).metrics.hit) = (4, 0, 3) := by decide

end Stretto.C19

#print axioms Stretto.C19.get_result_flavour_independent
#print axioms Stretto.C19.get_ttl_flavour_independent
#print axioms Stretto.C19.insert_flavour_independent
#print axioms Stretto.C19.remove_flavour_independent
#print axioms Stretto.C19.protocol_flavour_independent
#print axioms Stretto.C19.processor_flavour_independent
#print axioms Stretto.C19.flavour_difference_is_the_queue
#print axioms Stretto.C19.quiescent_step_agrees
#print axioms Stretto.C19.settle_is_worker_run
#print axioms Stretto.C19.flavours_agree_with_quiescence
