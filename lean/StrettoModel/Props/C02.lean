import StrettoModel.Props.C04
/-!
# C02 — Lookups return only the current value of that same key

Values are opaque ids; a *write* of `(k, v)` is an `insert`/`insert_if_present` call for key `k`
carrying `v`, or a write of `v` through `get_mut` on `k`. Quantification: every run of the transition
system (`Model/Lts.lean`), every validator, every oracle input.
-/
namespace Stretto.C02
open Stretto

/-- the writes an action performs -/
def writeOf : Act → List (Nat × Nat)
  | .insert k _ v _ _ _ _ _ => [(k, v)]
  | .getMut k _ _ v => [(k, v)]
  | _ => []

/-- provenance: everything resident or on its way to the store was written under that very key -/
structure Prov (K : Nat → Bool) (W : List (Nat × Nat)) (c : Cache) : Prop where
  resident : ∀ k e, K k = true → c.store.items.get k = some e → (k, e.val) ∈ W
  buffered : ∀ k cf cost v exp, K k = true → Item.new k cf cost v exp ∈ c.buf ++ c.pendingSends → (k, v) ∈ W

/-- **provenance is preserved by every step** (the action's own writes join the set) -/
theorem step_prov (su : Nat → Nat → Bool) (K : Nat → Bool) (W : List (Nat × Nat)) (c c' : Cache) (a : Act)
    (hs : c.step su a = some c') (h : Prov K W c) : Prov K (W ++ writeOf a) c' := by
  refine ⟨fun k e hK he => ?_, fun k cf cost v exp hK hm => ?_⟩
  · have hk := step_entry hs k
    generalize c'.store.items.get k = x at he hk
    cases hk with
    | same => exact List.mem_append_left _ (h.resident k e hK he)
    | gone => cases he
    | update | write => cases he; simp [writeOf]
    | admit hb =>
      cases he
      exact List.mem_append_left _ (h.buffered k _ _ _ _ hK (List.mem_append_left _ (hb ▸ List.mem_cons_self)))
  · rcases step_inflight hs hm with hm | hs
    · exact List.mem_append_left _ (h.buffered k cf cost v exp hK hm)
    · cases hs; simp [writeOf]

/-- the writes of a whole action sequence -/
def writesOf (acts : List Act) : List (Nat × Nat) := (acts.map writeOf).flatten

/-- a run as a relation (only enabled actions) -/
inductive Run (su : Nat → Nat → Bool) : Cache → List Act → Cache → Prop
  | refl (c : Cache) : Run su c [] c
  | step (c c' c'' : Cache) (acts : List Act) (a : Act) : Run su c acts c' → c'.step su a = some c'' →
      Run su c (acts ++ [a]) c''

theorem run_prov (su : Nat → Nat → Bool) (K : Nat → Bool) (W : List (Nat × Nat)) (c c' : Cache) (acts : List Act)
    (hr : Run su c acts c') (h : Prov K W c) : Prov K (W ++ writesOf acts) c' := by
  induction hr with
  | refl => simpa [writesOf] using h
  | step c1 c2 acts a _ hs ih =>
    have := step_prov su K _ c1 c2 a hs ih
    simpa [writesOf, List.append_assoc] using this

/-- what a lookup serves is resident, so provenance covers it -/
theorem get_of_prov (K : Nat → Bool) (W : List (Nat × Nat)) (c : Cache) (h : Prov K W c) (k cf now v : Nat)
    (hK : K k = true) (hget : (c.get k cf now).2 = some v) : (k, v) ∈ W := by
  obtain ⟨e, he, rfl⟩ := Cache.get_resident hget
  exact h.resident k e hK he

/-- **provenance**: in every state reachable from the empty cache, a lookup of key `k` returns
nothing or a value that was written under `k` by one of the calls so far — never another key's
value. -/
theorem lookup_returns_only_written (su : Nat → Nat → Bool) (cfg : Cfg) (maxCost : Int) (samples : Nat)
    (acts : List Act) (c : Cache) (hr : Run su (Cache.init cfg maxCost samples) acts c) (k cf now v : Nat)
    (hget : (c.get k cf now).2 = some v) : (k, v) ∈ writesOf acts := by
  have hp : Prov (fun _ => true) [] (Cache.init cfg maxCost samples) :=
    ⟨(fun k e _ he => by simp [Cache.init, Store.empty] at he),
     (fun k cf cost v exp _ hm => by simp [Cache.init] at hm)⟩
  have := run_prov su _ [] _ c acts hr hp
  simp only [List.nil_append] at this
  exact get_of_prov _ _ c this k cf now v rfl hget

/-- **after a clear has taken effect, only later writes are ever returned**: once the processor has
served a clear request, nothing is resident and nothing is buffered, so every value a later lookup
returns was written by a call after that point — never one written before the clear. -/
theorem after_clear_only_later_writes (su : Nat → Nat → Bool) (c0 c1 c : Cache) (later : List Act)
    (hclear : c0.procClear = some c1) (hpend : c0.pendingSends = []) (hr : Run su c1 later c)
    (k cf now v : Nat) (hget : (c.get k cf now).2 = some v) : (k, v) ∈ writesOf later := by
  have hp : Prov (fun _ => true) [] c1 := by
    obtain ⟨-, id, rest, -, rfl⟩ := Cache.procClear_some hclear
    exact ⟨fun j e _ hje => by simp [Store.empty] at hje, fun k cf cost v exp _ hm => by simp [hpend] at hm⟩
  have := run_prov su _ [] c1 c later hr hp
  simp only [List.nil_append] at this
  exact get_of_prov _ _ c this k cf now v rfl hget

/-- **after a remove has taken effect, only later writes of that key are ever returned**: in a state
where key `k` is not resident and no insert of `k` is still on its way (the state a `remove(k)` leaves
once earlier inserts of `k` have been processed), every value a later lookup of `k` returns was written
under `k` afterwards. -/
theorem after_remove_only_later_writes (su : Nat → Nat → Bool) (c1 c : Cache) (later : List Act) (k : Nat)
    (hgone : c1.store.items.get k = none)
    (hnone : ∀ cf cost v exp, Item.new k cf cost v exp ∉ c1.buf ++ c1.pendingSends)
    (hr : Run su c1 later c) (cf now v : Nat) (hget : (c.get k cf now).2 = some v) :
    (k, v) ∈ writesOf later := by
  have hp : Prov (fun j => j == k) [] c1 := by
    refine ⟨?_, ?_⟩
    · intro j e hK hje
      have : j = k := by simpa using hK
      subst this; rw [hgone] at hje; cases hje
    · intro j cf cost v exp hK hm
      have : j = k := by simpa using hK
      subst this; exact absurd hm (hnone cf cost v exp)
  have := run_prov su _ [] c1 c later hr hp
  simp only [List.nil_append] at this
  exact get_of_prov _ _ c this k cf now v (by simp) hget

/-- the state right after `remove(k)` on a cache whose buffer holds no insert of `k`: the premises of
`after_remove_only_later_writes` hold -/
theorem remove_establishes (c : Cache) (k cf : Nat) (hopen : c.closed = false)
    (hcf : ∀ e, c.store.items.get k = some e → Store.conflictOk cf e = true)
    (hnone : ∀ cf' cost v exp, Item.new k cf' cost v exp ∉ c.buf ++ c.pendingSends) :
    (c.remove k cf).1.store.items.get k = none ∧
    ∀ cf' cost v exp, Item.new k cf' cost v exp ∉ (c.remove k cf).1.buf ++ (c.remove k cf).1.pendingSends := by
  rw [Cache.remove_eq c k cf hopen]
  refine ⟨?_, fun cf' cost v exp hm => ?_⟩
  · rcases Store.tryRemove_cases c.store k cf with ⟨e, -, -, hr⟩ | ⟨hr, hno⟩ <;> rw [hr]
    · simp
    · cases hg : c.store.items.get k with
      | none => rfl
      | some e => exact absurd ((hcf e hg).symm.trans (hno e hg)) (by simp)
  · refine hnone cf' cost v exp ?_
    dsimp only at hm
    split at hm <;> simpa using hm

/-- **update_immediate**: an unvetoed insert of a resident key replaces the value at once — the very
next lookup returns it (from C04) -/
theorem update_immediate (c : Cache) (su : Nat → Nat → Bool) (k cf v : Nat) (cost : Int)
    (ttl now : Nat) (coster : Int) (e : Entry) (hopen : c.closed = false)
    (he : c.store.items.get k = some e) (hcf : Store.conflictOk cf e = true) (hsu : su e.val v = true) :
    (c.insert su k cf v cost ttl now coster false).1.store.items.get k =
      some { e with val := v, exp := { d := ttl, created := now } } :=
  (C04.update_applied_at_once c su k cf v cost ttl now coster e hopen he hcf hsu).1

/-- the same for the executable `Cache.run` of `Model/Lts.lean` (actions that are not enabled are skipped) -/
theorem exec_prov (su : Nat → Nat → Bool) (K : Nat → Bool) (W : List (Nat × Nat)) (c : Cache) (acts : List Act)
    (h : Prov K W c) : Prov K (W ++ writesOf acts) (Cache.run su c acts) :=
  Cache.run_ghost_induction (I := fun c W => Prov K W c) (ghost := fun _ W a => W ++ writeOf a)
    (G := fun _ W acts => W ++ writesOf acts) (fun _ _ => by simp [writesOf])
    (fun _ _ _ _ => by simp [writesOf, List.append_assoc]) (fun c W a c' h hs => step_prov su K W c c' a hs h)
    (fun c W a h _ => ⟨fun k e hK he => List.mem_append_left _ (h.resident k e hK he),
      fun k cf cost v exp hK hm => List.mem_append_left _ (h.buffered k cf cost v exp hK hm)⟩) acts c W h

/-- **provenance, executable form**: after any action sequence from the empty cache, a lookup of `k`
returns nothing or a value written under `k` by one of those actions -/
theorem lookup_returns_only_written_exec (su : Nat → Nat → Bool) (cfg : Cfg) (maxCost : Int) (samples : Nat)
    (acts : List Act) (k cf now v : Nat)
    (hget : ((Cache.run su (Cache.init cfg maxCost samples) acts).get k cf now).2 = some v) :
    (k, v) ∈ writesOf acts := by
  have hp : Prov (fun _ => true) [] (Cache.init cfg maxCost samples) :=
    ⟨(fun k e _ he => by simp [Cache.init, Store.empty] at he),
     (fun k cf cost v exp _ hm => by simp [Cache.init] at hm)⟩
  have := exec_prov su _ [] _ acts hp
  simp only [List.nil_append] at this
  exact get_of_prov _ _ _ this k cf now v rfl hget

-- never rolled back ---------------------------------------------------------------------------------

/-- a `New` item for a key the policy already charges leaves the store alone (the policy re-charges in
place or refuses; nothing is admitted, nothing evicted) -/
theorem handleNew_charged_store (c : Cache) (su : Nat → Nat → Bool) (est : Nat → Int)
    (refills : List (List (Nat × Int))) (k cf : Nat) (cost : Int) (v : Nat) (exp : Time)
    (hinv : c.lfu.Inv) (hch : (c.lfu.costs.get k).isSome = true) :
    (c.handleItem su est refills (Item.new k cf cost v exp)).store = c.store :=
  Cache.handleItem_new_of_charged c su est refills k cf v cost exp hinv hch

/-- **never rolled back**: over every step of every actor, the value of a key that stays resident
changes only when that very step is a client write to the key — an `insert` (update in place) or a
write through `get_mut` — and then it becomes the value that call wrote. The processor (stale queued
inserts included), the sweep, evictions of other keys, clears and the workers never put another value
under a resident key. (`Inv06` — every resident entry is charged — holds in every reachable state
while the processor lives: C06.) -/
theorem resident_value_changes_only_by_client_write (su : Nat → Nat → Bool) (c c' : Cache) (a : Act)
    (hs : c.step su a = some c') (hinv : Inv06 c) (k : Nat) (e e' : Entry)
    (he : c.store.items.get k = some e) (he' : c'.store.items.get k = some e') (hne : e'.val ≠ e.val) :
    (∃ cf v cost ttl now coster only, a = Act.insert k cf v cost ttl now coster only ∧ e'.val = v) ∨
    (∃ cf now v, a = Act.getMut k cf now v ∧ e'.val = v) := by
  have hk := step_entry hs k
  rw [he'] at hk
  generalize hx : some e' = x at hk
  cases hk with
  | same => rw [he] at hx; cases hx; exact absurd rfl hne
  | gone => cases hx
  | update => cases hx; exact Or.inl ⟨_, _, _, _, _, _, _, rfl, rfl⟩
  | write => cases hx; exact Or.inr ⟨_, _, _, rfl, rfl⟩
  | admit _ hadd =>
    -- a resident key is charged (C06), and the policy never adds a charged key
    have hch := hinv.resident_charged k (by simp [he])
    rw [((policyAdd_spec _ _ _ _ _ hinv.lfuInv).admitted hadd).2.2] at hch
    cases hch

-- non-vacuity -------------------------------------------------------------------------------------
/-- a concrete run: insert key 3 with value 77, the processor applies it, the lookup returns 77 -/
def exActs : List Act := [.insert 3 0 77 1 0 0 0 false, .procItem (fun _ => 0) []]
def exRun : Cache := Cache.run (fun _ _ => true) (Cache.init C04.exCfg 1000 5) exActs
example : (exRun.get 3 0 0).2 = some 77 := by decide
example : (3, 77) ∈ writesOf exActs := by decide

end Stretto.C02

#print axioms Stretto.C02.step_prov
#print axioms Stretto.C02.lookup_returns_only_written
#print axioms Stretto.C02.lookup_returns_only_written_exec
#print axioms Stretto.C02.after_clear_only_later_writes
#print axioms Stretto.C02.after_remove_only_later_writes
#print axioms Stretto.C02.remove_establishes
#print axioms Stretto.C02.update_immediate
#print axioms Stretto.C02.resident_value_changes_only_by_client_write
