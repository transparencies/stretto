import StrettoModel.Proofs.Step
/-!
# C09 — Conditional writes: insert_if_present and UpdateValidator are honoured

Quantification: every cache state (so every position of the call relative to buffered work), every
key/conflict, every validator predicate `su`, every cost/TTL/time.
-/
namespace Stretto.C09
open Stretto

/-- **iip_absent_noop**: `insert_if_present` on a key that is absent — or whose TTL has elapsed
without it having been reclaimed yet — returns false and leaves the whole cache state unchanged. -/
theorem iip_absent_noop (c : Cache) (su : Nat → Nat → Bool) (k cf v : Nat) (cost : Int)
    (ttl now : Nat) (coster : Int) (habs : c.store.get k cf now = none) :
    c.insert su k cf v cost ttl now coster true = (c, false) := by
  unfold Cache.insert Cache.insertBody
  rw [habs]
  cases c.closed <;> rfl

/-- no client-side insert (either variant) ever adds a key to the store: new entries are created
only by the processor, for `insert`, never for `insert_if_present` (which enqueues nothing on an
absent key, see `iip_absent_noop`) -/
theorem client_insert_never_creates (c : Cache) (su : Nat → Nat → Bool) (k cf v : Nat) (cost : Int)
    (ttl now : Nat) (coster : Int) (only : Bool) (j : Nat)
    (h : ((c.insert su k cf v cost ttl now coster only).1.store.items.get j).isSome = true) :
    (c.store.items.get j).isSome = true := by
  have hj := step_entry (su := su) (c := c) (a := .insert k cf v cost ttl now coster only) rfl j
  generalize (c.insert su k cf v cost ttl now coster only).1.store.items.get j = x at h hj
  cases hj with
  | same => exact h
  | gone => cases h
  | update hg => simp [hg]

/-- **iip_resident_is_update**: on a visible resident key that passes the validator,
`insert_if_present` behaves as an update of value and (eventually) cost: the value is replaced at
once, the old one leaves through `on_exit`, the call returns true. -/
theorem iip_resident_is_update (c : Cache) (su : Nat → Nat → Bool) (k cf v : Nat) (cost : Int)
    (now : Nat) (coster : Int) (e : Entry) (hopen : c.closed = false)
    (hvis : c.store.lookup k cf now = some e) (hsu : su e.val v = true) :
    let r := c.insert su k cf v cost 0 now coster true
    r.2 = true ∧ r.1.store.items.get k = some { e with val := v, exp := { d := 0, created := now } } ∧
    r.1.cbs = CB.exit e.val :: c.cbs := by
  obtain ⟨he, hcf, -⟩ := Store.lookup_some c.store k cf now e hvis
  have hget : (c.store.get k cf now).isNone = false := by simp [Store.get, hvis]
  have hu : c.store.tryUpdate su k v cf { d := 0, created := now } =
      ({ items := c.store.items.set k { e with val := v, exp := { d := 0, created := now } },
         em := c.store.em.tryUpdate k cf e.exp { d := 0, created := now } }, .update e.val) := by
    simp [Store.tryUpdate, he, hcf, hsu]
  unfold Cache.insert Cache.insertBody
  simp only [hopen, hget, hu, Bool.false_eq_true, if_false, Bool.and_false]
  -- whether or not the `Update` item fits into the buffer
  cases (decide (c.buf.length < c.cfg.bufCap) && !c.procExited) <;> simp

/-- **veto_preserves**: when the validator vetoes the replacement, the resident value and its TTL
(and the expiry index) stay exactly as they were, whichever insert variant was used. -/
theorem veto_preserves (c : Cache) (su : Nat → Nat → Bool) (k cf v : Nat) (cost : Int)
    (ttl now : Nat) (coster : Int) (only : Bool) (e : Entry)
    (he : c.store.items.get k = some e) (hveto : su e.val v = false) :
    (c.insert su k cf v cost ttl now coster only).1.store = c.store := by
  rcases Cache.insert_cases c su k cf v cost ttl now coster only with
    ⟨e', -, hg, -, hs, -⟩ | ⟨-, -, h⟩ | ⟨-, -, h⟩ | h
  · rw [he] at hg; cases hg; rw [hveto] at hs; cases hs
  all_goals simp [h]

/-- the processor's insert honours the validator too -/
theorem veto_preserves_processor (s : Store) (su : Nat → Nat → Bool) (k v cf : Nat) (t : Time)
    (e : Entry) (he : s.items.get k = some e) (hveto : su e.val v = false) :
    s.tryInsert su k v cf t = s := by
  rcases Store.tryInsert_cases s su k v cf t with ⟨em, -, ⟨hg, -⟩ | ⟨e', hg, -, hs, -⟩⟩ | ⟨h, -⟩
  · rw [he] at hg; cases hg
  · rw [he] at hg; cases hg; rw [hveto] at hs; cases hs
  · exact h

-- over whole runs: where resident keys come from -----------------------------------------------------

/-- the keys an action may bring into the cache: only an unconditional `insert` names one;
`insert_if_present`, `get_mut` writes, lookups, removes and every processor / worker iteration name none -/
def createOf : Act → List Nat
  | .insert k _ _ _ _ _ _ false => [k]
  | _ => []

def createsOf (acts : List Act) : List Nat := (acts.map createOf).flatten

/-- origin invariant: every resident key, and every key on its way to the store, was named by an
unconditional `insert` -/
structure Orig (U : List Nat) (c : Cache) : Prop where
  resident : ∀ k e, c.store.items.get k = some e → k ∈ U
  buffered : ∀ k cf cost v exp, Item.new k cf cost v exp ∈ c.buf ++ c.pendingSends → k ∈ U

/-- **the origin invariant is preserved by every step of every actor** -/
theorem step_orig (su : Nat → Nat → Bool) (U : List Nat) (c c' : Cache) (a : Act)
    (hs : c.step su a = some c') (h : Orig U c) : Orig (U ++ createOf a) c' := by
  refine ⟨fun k e he => ?_, fun k cf cost v exp hm => ?_⟩
  · have hk := step_entry hs k
    generalize c'.store.items.get k = x at he hk
    cases hk with
    | same => exact List.mem_append_left _ (h.resident k e he)
    | gone => cases he
    -- a client only ever writes over an entry that is there
    | update hg => exact List.mem_append_left _ (h.resident k _ hg)
    | write hl => exact List.mem_append_left _ (h.resident k _ (Store.lookup_some _ _ _ _ _ hl).1)
    | admit hb => exact List.mem_append_left _ (h.buffered k _ _ _ _ (List.mem_append_left _ (hb ▸ List.mem_cons_self)))
  · rcases step_inflight hs hm with hm | hs
    · exact List.mem_append_left _ (h.buffered k cf cost v exp hm)
    · cases hs; simp [createOf]

theorem exec_orig (su : Nat → Nat → Bool) (U : List Nat) (c : Cache) (acts : List Act)
    (h : Orig U c) : Orig (U ++ createsOf acts) (Cache.run su c acts) :=
  Cache.run_ghost_induction (I := fun c U => Orig U c) (ghost := fun _ U a => U ++ createOf a)
    (G := fun _ U acts => U ++ createsOf acts) (fun _ _ => by simp [createsOf])
    (fun _ _ _ _ => by simp [createsOf, List.append_assoc]) (fun c U a c' h hs => step_orig su U c c' a hs h)
    (fun c U a h _ => ⟨fun k e he => List.mem_append_left _ (h.resident k e he),
      fun k cf cost v exp hm => List.mem_append_left _ (h.buffered k cf cost v exp hm)⟩) acts c U h

/-- **insert_if_present never creates an entry — over whole histories**: after any sequence of actions
of any actors from the builder's state (clients calling anything, in any interleaving with the
processor, the sweeper and the policy worker), every resident key was named by an *unconditional*
`insert` in that history. Whatever `insert_if_present` calls were made, at whatever point relative to
buffered work, removes, expiry and clears: a key only ever written conditionally is not resident, is not
on its way to the store, and no lookup returns anything for it. -/
theorem only_unconditional_inserts_create (su : Nat → Nat → Bool) (cfg : Cfg) (maxCost : Int) (samples : Nat)
    (acts : List Act) (k : Nat) (hk : k ∉ createsOf acts) :
    (Cache.run su (Cache.init cfg maxCost samples) acts).store.items.get k = none ∧
    (∀ cf cost v exp, Item.new k cf cost v exp ∉ (Cache.run su (Cache.init cfg maxCost samples) acts).buf) ∧
    (∀ cf now, ((Cache.run su (Cache.init cfg maxCost samples) acts).get k cf now).2 = none) := by
  have ho : Orig (createsOf acts) (Cache.run su (Cache.init cfg maxCost samples) acts) := by
    simpa using exec_orig su [] _ acts ⟨fun k e he => (by cases he), fun k cf cost v exp hm => (by cases hm)⟩
  refine ⟨Option.eq_none_iff_forall_ne_some.mpr fun e he => hk (ho.resident k e he),
    fun cf cost v exp hm => hk (ho.buffered k cf cost v exp (List.mem_append_left _ hm)),
    fun cf now => Option.eq_none_iff_forall_ne_some.mpr fun v hget => ?_⟩
  obtain ⟨e, he, -⟩ := Cache.get_resident hget
  exact hk (ho.resident k e he)

-- non-vacuity -------------------------------------------------------------------------------
def exCfg : Cfg := { itemSize := 56, ignoreInternal := false, bufCap := 4, ringCap := 2, pqCap := some 3, metricsOn := true }
example : ((Cache.init exCfg 100 5).insert (fun _ _ => true) 1 0 7 1 0 10 0 true).2 = false := by decide
/-- the hypothesis is met by histories that do write the key — conditionally only — and the conclusion is not
trivially true of every key: an unconditional insert, applied, makes its key resident -/
example : (1 : Nat) ∉ createsOf [.insert 1 0 7 1 0 10 0 true, .insert 2 0 8 1 0 10 0 false, .procItem (fun _ => 0) [],
    .insert 1 0 9 1 0 11 0 true] := by decide
example : ((Cache.run (fun _ _ => true) (Cache.init exCfg 100 5)
    [.insert 1 0 7 1 0 10 0 true, .insert 2 0 8 1 0 10 0 false, .procItem (fun _ => 0) [],
     .insert 1 0 9 1 0 11 0 true]).store.items.get 2).isSome = true := by decide

end Stretto.C09

#print axioms Stretto.C09.iip_absent_noop
#print axioms Stretto.C09.client_insert_never_creates
#print axioms Stretto.C09.iip_resident_is_update
#print axioms Stretto.C09.veto_preserves
#print axioms Stretto.C09.veto_preserves_processor
#print axioms Stretto.C09.step_orig
#print axioms Stretto.C09.only_unconditional_inserts_create
