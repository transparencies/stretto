import StrettoModel.Props.C17
/-!
# C16 — Charged cost = given cost (or Coster value) + internal overhead

Quantification: every explicit cost, every Coster valuation `coster` of the inserted value, both
settings of `ignore_internal_cost`, every item size, every cache state in which the item is applied.
Domain: `Int` costs (no `i64` overflow of `cost + item_size`).
-/
namespace Stretto.C16
open Stretto

/-- the cost the client attaches to the item: the explicit one, or the Coster's valuation when the
explicit cost is 0 -/
def effectiveCost (cost coster : Int) : Int := if cost = 0 then coster else cost

/-- what is to be charged for it -/
def charge (c : Cache) (cost coster : Int) : Int :=
  effectiveCost cost coster + (if c.cfg.ignoreInternal then 0 else (c.cfg.itemSize : Int))

/-- **the item a new insert enqueues carries `cost + coster-if-cost-is-0`** -/
theorem insert_enqueues_effective_cost (c : Cache) (su : Nat → Nat → Bool) (k cf v : Nat) (cost : Int)
    (ttl now : Nat) (coster : Int) (hopen : c.closed = false)
    (habs : c.store.items.get k = none) (hroom : c.buf.length < c.cfg.bufCap)
    (halive : c.procExited = false) :
    (c.insert su k cf v cost ttl now coster false) =
      ({ c with buf := c.buf ++ [Item.new k cf (effectiveCost cost coster) v { d := ttl, created := now }] }, true) := by
  unfold Cache.insert Cache.insertBody Store.tryUpdate
  simp only [hopen, habs, hroom, halive, Bool.false_eq_true, if_false, Bool.false_and]
  unfold effectiveCost
  by_cases h0 : cost = 0 <;> simp [h0]

/-- **charge_formula (new key)**: when the processor applies a `New` item and the policy admits it,
the key is charged exactly `item cost + internal overhead` (no overhead when
`ignore_internal_cost`). With `insert_enqueues_effective_cost`: explicit cost, or Coster value when
the explicit cost was 0, plus the fixed per-entry overhead. -/
theorem admitted_charge (c : Cache) (su : Nat → Nat → Bool) (est : Nat → Int)
    (refills : List (List (Nat × Int))) (k cf v : Nat) (cost : Int) (exp : Time)
    (hinv : c.lfu.Inv)
    (hadd : (policyAdd c.lfu est k (c.internalCost cost) refills).added = true) :
    (policyAdd c.lfu est k (c.internalCost cost) refills).lfu.costs.get k = some (c.internalCost cost) ∧
    c.internalCost cost = cost + (if c.cfg.ignoreInternal then 0 else (c.cfg.itemSize : Int)) := by
  refine ⟨((policyAdd_spec c.lfu est k (c.internalCost cost) refills hinv).admitted hadd).2.1, ?_⟩
  unfold Cache.internalCost
  split <;> simp

/-- **charge_formula (update)**: when the processor applies an `Update` item for a charged key, the
key is re-charged `explicit cost + internal overhead + coster value` — `ext` is the Coster value
when the explicit cost was 0 and 0 otherwise — whatever it was charged before. -/
theorem update_recharges (c : Cache) (su : Nat → Nat → Bool) (est : Nat → Int)
    (refills : List (List (Nat × Int))) (k : Nat) (cost ext prev : Int)
    (hch : c.lfu.costs.get k = some prev) :
    (c.handleItem su est refills (Item.update k cost ext)).lfu.costs.get k =
      some (c.internalCost cost + ext) := by
  simp [Cache.handleItem_update, Lfu.update, hch]

/-- an `Update` for a key that is not charged charges nothing -/
theorem update_absent_noop (c : Cache) (su : Nat → Nat → Bool) (est : Nat → Int)
    (refills : List (List (Nat × Int))) (k : Nat) (cost ext : Int)
    (hch : c.lfu.costs.get k = none) :
    (c.handleItem su est refills (Item.update k cost ext)).lfu = c.lfu := by
  simp [Cache.handleItem_update, Lfu.update, hch]

/-- **callback_cost_is_charge (reject)**: a refused `New` item is handed to `on_reject` with the
cost that was to be charged (item cost + overhead) -/
theorem reject_reports_charge (c : Cache) (su : Nat → Nat → Bool) (est : Nat → Int)
    (refills : List (List (Nat × Int))) (k cf v : Nat) (cost : Int) (exp : Time)
    (hrej : (policyAdd c.lfu est k (c.internalCost cost) refills).added = false)
    (hnov : (policyAdd c.lfu est k (c.internalCost cost) refills).victims = none) :
    (c.handleItem su est refills (Item.new k cf cost v exp)).cbs =
      CB.reject k cf v (c.internalCost cost) :: c.cbs := by
  simp [Cache.handleItem_new, hrej, hnov]

/-- **callback_cost_is_charge (expiry)**: an entry reclaimed by the sweep is handed to `on_evict`
with its value and the cost the policy charged for it at that moment -/
theorem sweep_reports_charge (c : Cache) (now k cf : Nat) (cb : CB)
    (h : (c.sweepOne now k cf).2 = some cb) :
    ∃ e, c.store.items.get k = some e ∧ cb = CB.evict k e.conflict e.val (policyCost c.lfu k) := by
  rcases Cache.sweepOne_cases c now k cf with ⟨hr, -⟩ | ⟨e, he, -, ⟨-, hr⟩ | ⟨-, hr⟩⟩ <;> rw [hr] at h
  · cases h
  · cases h
  · exact ⟨e, he, (Option.some.inj h).symm⟩

/-- **callback_cost_is_charge (admission victims)**: every `on_evict` the processor delivers while
applying a `New` item reports, for the evicted key, exactly the cost the policy charged for it before
the item was applied — provided the sampled candidates are what `fill_sample` may produce
(`RefillsOk`, checked at run time on the implementation's observations). -/
theorem admission_victim_reports_charge (c : Cache) (su : Nat → Nat → Bool) (est : Nat → Int)
    (refills : List (List (Nat × Int))) (k cf v : Nat) (cost : Int) (exp : Time)
    (hok : RefillsOk est (est k) (c.internalCost cost) c.lfu [] refills)
    (vk vcf vv : Nat) (vc : Int)
    (hx : CB.evict vk vcf vv vc ∈ (c.handleItem su est refills (Item.new k cf cost v exp)).cbs)
    (hnew : CB.evict vk vcf vv vc ∉ c.cbs) :
    c.lfu.costs.get vk = some vc := by
  rw [Cache.handleItem_new] at hx; dsimp only at hx
  rcases Cache.foldl_evictOne_cbs _ _ hx with h | ⟨p, hp, cf', v', heq⟩
  · -- before the victims leave, only an `on_reject` has joined the log
    split at h <;> exact absurd (by simpa using h) hnew
  · cases heq
    cases hv : (policyAdd c.lfu est k (c.internalCost cost) refills).victims with
    | none => rw [hv] at hp; cases hp
    | some vs =>
      rw [hv] at hp
      exact policyAdd_victims_charged c.lfu est k (c.internalCost cost) refills hok vs hv p hp

-- the charge of a key over whole runs ----------------------------------------------------------------

/-- **the charge of a key changes only when an item for that key is applied, and then it is the
item's charge**: over every step of every actor of the transition system (client calls, ticks, clear,
stop, policy worker, `update_max_cost`, admissions and evictions of *other* keys), if key `k` is
charged `x` after the step then it was already charged `x` before it, or the step was the processor
applying a buffered `New` item for `k` (then `x` = item cost + overhead) or a buffered `Update` item
for `k` (then `x` = explicit cost + overhead + coster value). With `insert_enqueues_effective_cost`
this is C16's formula for every reachable state: the charge of a resident key is the charge of the
latest item applied for it. (`c.lfu.Inv` holds in every reachable state: C01/C06.) -/
theorem charge_only_from_applied_item (su : Nat → Nat → Bool) (c c' : Cache) (a : Act)
    (hs : c.step su a = some c') (hinv : c.lfu.Inv) (k : Nat) (x : Int)
    (hx : c'.lfu.costs.get k = some x) :
    c.lfu.costs.get k = some x ∨
    ∃ est refills it rest, a = .procItem est refills ∧ c.buf = it :: rest ∧
      ((∃ cf cost v exp, it = Item.new k cf cost v exp ∧ x = c.internalCost cost) ∨
       (∃ cost ext, it = Item.update k cost ext ∧ x = c.internalCost cost + ext)) := by
  have h := step_charge hs hinv k
  generalize c'.lfu.costs.get k = y at hx h
  cases h with
  | same => exact Or.inl hx
  | gone => cases hx
  | new hb => cases hx; exact Or.inr ⟨_, _, _, _, rfl, hb, Or.inl ⟨_, _, _, _, rfl, rfl⟩⟩
  | update hb => cases hx; exact Or.inr ⟨_, _, _, _, rfl, hb, Or.inr ⟨_, _, rfl, rfl⟩⟩

/-- the processor applies a buffered item for key `k` whose charge is `x` -/
def AppliesFor (c : Cache) (a : Act) (k : Nat) (x : Int) : Prop :=
  ∃ est refills it rest, a = .procItem est refills ∧ c.buf = it :: rest ∧
    ((∃ cf cost v exp, it = Item.new k cf cost v exp ∧ x = c.internalCost cost) ∨
     (∃ cost ext, it = Item.update k cost ext ∧ x = c.internalCost cost + ext))

/-- key `k` is charged `x` in every state along the run -/
def ChargedSince (su : Nat → Nat → Bool) (k : Nat) (x : Int) : Cache → List Act → Prop
  | c, [] => c.lfu.costs.get k = some x
  | c, a :: rest => c.lfu.costs.get k = some x ∧ ChargedSince su k x ((c.step su a).getD c) rest

theorem ChargedSince.head {su : Nat → Nat → Bool} {k : Nat} {x : Int} {c : Cache} {acts : List Act}
    (h : ChargedSince su k x c acts) : c.lfu.costs.get k = some x := by
  cases acts with
  | nil => exact h
  | cons _ _ => exact h.1

/-- **the charge of a key is the charge of the latest item applied for it** — over whole runs: if
key `k` is charged `x` at the end of any run (any interleaving of any actors), then either it has been
charged `x` in every state of the run, or the run splits as `pre ++ a :: post` where `a` is the
processor applying a buffered item for `k` whose charge is `x`, and `k` has been charged `x` in every
state since. -/
theorem charge_is_latest_applied (su : Nat → Nat → Bool) (acts : List Act) :
    ∀ (c : Cache), MInv c → ∀ (k : Nat) (x : Int), (Cache.run su c acts).lfu.costs.get k = some x →
      ChargedSince su k x c acts ∨
      ∃ pre a post, acts = pre ++ a :: post ∧ AppliesFor (Cache.run su c pre) a k x ∧
        ChargedSince su k x (((Cache.run su c pre).step su a).getD (Cache.run su c pre)) post := by
  induction acts with
  | nil => intro c _ k x hx; exact Or.inl hx
  | cons a rest ih =>
    intro c hi k x hx
    -- the state after `a` (the same state if `a` is not enabled)
    have hstep : MInv ((c.step su a).getD c) ∧ (((c.step su a).getD c).lfu.costs.get k = some x →
        c.lfu.costs.get k = some x ∨ AppliesFor c a k x) := by
      cases hs : c.step su a with
      | none => exact ⟨hi, Or.inl⟩
      | some c' => exact ⟨C17.step_minv su c c' a hs hi, charge_only_from_applied_item su c c' a hs hi.lfuInv k x⟩
    rcases ih _ hstep.1 k x hx with h | ⟨pre, b, post, he, hap, hsince⟩
    · rcases hstep.2 h.head with h0 | happ
      · exact Or.inl ⟨h0, h⟩
      · exact Or.inr ⟨[], a, rest, rfl, happ, h⟩
    · exact Or.inr ⟨a :: pre, b, post, by rw [he]; rfl, hap, hsince⟩

/-- on a cache built by the builder no key is charged to begin with, so every charge in every
reachable state is that of the latest applied item -/
theorem reachable_charge_is_latest_applied (su : Nat → Nat → Bool) (cfg : Cfg) (maxCost : Int) (samples : Nat)
    (acts : List Act) (k : Nat) (x : Int)
    (hx : (Cache.run su (Cache.init cfg maxCost samples) acts).lfu.costs.get k = some x) :
    ∃ pre a post, acts = pre ++ a :: post ∧
      AppliesFor (Cache.run su (Cache.init cfg maxCost samples) pre) a k x ∧
      ChargedSince su k x (((Cache.run su (Cache.init cfg maxCost samples) pre).step su a).getD
        (Cache.run su (Cache.init cfg maxCost samples) pre)) post := by
  rcases charge_is_latest_applied su acts _ (C17.init_minv cfg maxCost samples) k x hx with h | h
  · exact nomatch h.head
  · exact h


-- non-vacuity -------------------------------------------------------------------------------
def exCfg : Cfg := { itemSize := 56, ignoreInternal := false, bufCap := 4, ringCap := 2, pqCap := some 3, metricsOn := false }
example : ((Cache.init exCfg 1000 5).insert (fun _ _ => true) 3 0 9 0 0 10 7 false).1.buf =
    [Item.new 3 0 7 9 ⟨0, 10⟩] := by decide
example : (((Cache.init exCfg 1000 5).handleItem (fun _ _ => true) (fun _ => 0) [] (Item.new 3 0 7 9 ⟨0, 10⟩)).lfu.costs) =
    [(3, 63)] := by decide

-- the premise of `reachable_charge_is_latest_applied` is met: insert, apply, then an update re-charges
example : (Cache.run (fun _ _ => true) (Cache.init exCfg 1000 5)
    [.insert 3 0 77 10 0 5 0 false, .procItem (fun _ => 0) []]).lfu.costs.get 3 = some 66 := by decide
example : (Cache.run (fun _ _ => true) (Cache.init exCfg 1000 5)
    [.insert 3 0 77 10 0 5 0 false, .procItem (fun _ => 0) [], .insert 3 0 78 0 0 6 4 false, .get 9 0 6,
     .procItem (fun _ => 0) []]).lfu.costs.get 3 = some 60 := by decide

end Stretto.C16

#print axioms Stretto.C16.insert_enqueues_effective_cost
#print axioms Stretto.C16.admitted_charge
#print axioms Stretto.C16.update_recharges
#print axioms Stretto.C16.update_absent_noop
#print axioms Stretto.C16.reject_reports_charge
#print axioms Stretto.C16.sweep_reports_charge
#print axioms Stretto.C16.admission_victim_reports_charge
#print axioms Stretto.C16.charge_only_from_applied_item
#print axioms Stretto.C16.charge_is_latest_applied
#print axioms Stretto.C16.reachable_charge_is_latest_applied
