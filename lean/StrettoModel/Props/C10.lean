import StrettoModel.Proofs.Step
/-!
# C10 — wait() is a barrier and always returns

`wait()` = [closed? → Ok] → [non-blocking enqueue of a marker: Err when the buffer is full] →
[closed? → Ok] → block until the marker's wait-group is released.
Quantification: every state and every action of the LTS (`Model/Lts.lean`), i.e. every interleaving
of `wait()` with inserts, removes, `clear()` and `close()` of other threads and with the processor.
Fairness (the processor is eventually scheduled) is assumed for termination; OS-level starvation is
outside the model.
-/
namespace Stretto.C10
open Stretto

/-- the marker of waiter `id` is buffered, or the waiter has been released -/
def Served (c : Cache) (id : Nat) : Prop := Item.wait id ∈ c.buf ∨ id ∈ c.released

/-- client calls never release a waiter and never put anything in front of a buffered marker:
the buffer only grows at its end -/
theorem clients_only_append (su : Nat → Nat → Bool) (c : Cache) (k cf v : Nat) (cost : Int) (ttl now : Nat)
    (coster : Int) (only : Bool) (id : Nat) :
    (∃ tail, (c.insert su k cf v cost ttl now coster only).1.buf = c.buf ++ tail) ∧
    (c.insert su k cf v cost ttl now coster only).1.released = c.released ∧
    (∃ tail, (c.remove k cf).1.buf = c.buf ++ tail) ∧ (c.remove k cf).1.released = c.released ∧
    (∃ tail, (c.waitEnq id).1.buf = c.buf ++ tail) ∧ (c.waitEnq id).1.released = c.released := by
  have h1 := step_appends (su := su) (c := c) (a := .insert k cf v cost ttl now coster only) rfl rfl
  have h2 := step_appends (su := su) (c := c) (a := .remove k cf) rfl rfl
  have h3 := step_appends (su := su) (c := c) (a := .waitEnq id) rfl rfl
  exact ⟨h1.1.imp fun _ => Eq.symm, h1.2, h2.1.imp fun _ => Eq.symm, h2.2, h3.1.imp fun _ => Eq.symm, h3.2⟩

/-- **no lost wake-up**: once a waiter's marker is buffered it stays "served" — buffered or released —
through every step of every actor. In particular the processor's stop iteration releases it, so a
waiter can never be left with nobody obliged to release it. -/
theorem no_lost_wakeup (su : Nat → Nat → Bool) (c c' : Cache) (a : Act) (hs : c.step su a = some c')
    (id : Nat) (h : Served c id) : Served c' id := by
  cases step_queue hs with
  | append _ hb hr =>
    rcases h with h | h
    · exact Or.inl (hb.subset h)
    · exact Or.inr (hr ▸ h)
  | pop it rest _ hb hb' hr =>
    rcases h with h | h
    · rcases List.mem_cons.mp (hb ▸ h) with h | h
      · exact Or.inr ((hr id).mpr (Or.inl h.symm))
      · exact Or.inl (hb'.subset h)
    · exact Or.inr ((hr id).mpr (Or.inr h))
  | flush _ _ hr => exact Or.inr (hr id h)

/-- **barrier**: the processor releases a waiter through its insert-buffer branch only when the
waiter's marker is at the head of the buffer — every item enqueued before the marker has already
been taken out and handled (or discarded by a clear) — and never releases anybody else. -/
theorem marker_released_at_head (su : Nat → Nat → Bool) (c c' : Cache) (est : Nat → Int)
    (refills : List (List (Nat × Int))) (hs : c.procItem su est refills = some c') (id : Nat)
    (hnew : id ∈ c'.released) (hold : id ∉ c.released) : ∃ rest, c.buf = Item.wait id :: rest := by
  obtain ⟨it, rest, hb, -, hr⟩ := procItem_pops hs
  rcases (hr id).mp hnew with rfl | h
  · exact ⟨rest, hb⟩
  · exact absurd h hold

/-- **progress**: with `n` items ahead of the marker, `n + 1` iterations of the processor's
insert-buffer branch (whatever the clients do in between — they only append) release the waiter;
here for the processor running alone. Under fairness the waiter therefore returns. -/
theorem released_after_handling (su : Nat → Nat → Bool) (est : Nat → Int)
    (refills : List (List (Nat × Int))) (pre : List Item) :
    ∀ (c : Cache) (post : List Item) (id : Nat), c.procExited = false →
      c.buf = pre ++ Item.wait id :: post →
      ∃ c', (List.replicate (pre.length + 1) (Act.procItem est refills)).foldl
              (fun s a => (s.step su a).getD s) c = c' ∧ id ∈ c'.released := by
  intro c post id halive hb
  refine ⟨_, rfl, ?_⟩
  induction pre generalizing c post with
  | nil =>
    obtain ⟨c1, hs⟩ : ∃ c1, c.step su (.procItem est refills) = some c1 := by
      simp [Cache.step, Cache.procItem, halive, hb]
    obtain ⟨it, rest, hb1, -, hr⟩ := procItem_pops hs
    cases hb.symm.trans hb1
    simpa [hs] using (hr id).mpr (Or.inl rfl)
  | cons x pre ih =>
    obtain ⟨c1, hs⟩ : ∃ c1, c.step su (.procItem est refills) = some c1 := by
      simp [Cache.step, Cache.procItem, halive, hb]
    obtain ⟨it, rest, hb1, ⟨tail, hb'⟩, -⟩ := procItem_pops hs
    cases hb.symm.trans hb1
    have halive' : c1.procExited = false := by simpa [halive] using (step_protocol hs).2.2.1
    simpa [List.replicate_succ, hs] using ih c1 (post ++ tail) halive' (by simp [← hb'])

/-- nobody is ever un-released -/
theorem step_released_mono (su : Nat → Nat → Bool) (c c' : Cache) (a : Act) (hs : c.step su a = some c')
    (id : Nat) (h : id ∈ c.released) : id ∈ c'.released := by
  cases step_queue hs with
  | append _ _ hr => exact hr ▸ h
  | pop _ _ _ _ _ hr => exact (hr id).mpr (Or.inr h)
  | flush _ _ hr => exact hr id (Or.inr h)

theorem run_released_mono (su : Nat → Nat → Bool) (acts : List Act) (c : Cache) (id : Nat)
    (h : id ∈ c.released) : id ∈ (Cache.run su c acts).released :=
  Cache.run_induction (fun c a c' h hs => step_released_mono su c c' a hs id h) acts c h

/-- ghost: the number of processor iterations (item, clear, stop) actually taken along a run -/
def procStepsTaken (su : Nat → Nat → Bool) : Cache → List Act → Nat
  | _, [] => 0
  | c, a :: rest =>
    (match a, c.step su a with
     | .procItem _ _, some _ => 1
     | .procClear, some _ => 1
     | .procStop, some _ => 1
     | _, _ => 0) + procStepsTaken su ((c.step su a).getD c) rest

theorem procStepsTaken_cons (su : Nat → Nat → Bool) (c : Cache) (a : Act) (rest : List Act) :
    procStepsTaken su c (a :: rest) =
      (if a.consumes && (c.step su a).isSome then 1 else 0) + procStepsTaken su ((c.step su a).getD c) rest := by
  rw [procStepsTaken.eq_def]; dsimp only
  cases c.step su a <;> cases a <;> rfl

theorem step_marker {su : Nat → Nat → Bool} {c c' : Cache} {a : Act} (hs : c.step su a = some c')
    {pre post : List Item} {id : Nat} (hb : c.buf = pre ++ Item.wait id :: post) :
    id ∈ c'.released ∨
    ∃ pre' post', c'.buf = pre' ++ Item.wait id :: post' ∧
      pre'.length + (if a.consumes then 1 else 0) ≤ pre.length := by
  cases step_queue hs with
  | append ha hb' _ =>
    obtain ⟨tail, hb'⟩ := hb'
    exact Or.inr ⟨pre, post ++ tail, by simp [← hb', hb], by simp [ha]⟩
  | pop it rest ha hb1 hb' hr =>
    obtain ⟨tail, hb'⟩ := hb'
    cases pre with
    | nil => cases hb.symm.trans hb1; exact Or.inl ((hr id).mpr (Or.inl rfl))
    | cons x pre => cases hb.symm.trans hb1; exact Or.inr ⟨pre, post ++ tail, by simp [← hb'], by simp [ha]⟩
  | flush _ _ hr => exact Or.inl (hr id (Or.inl (by simp [hb])))

/-- **progress under every interleaving**: with `n` items ahead of a waiter's marker, after *any* run —
clients inserting, removing, waiting, clearing, closing in between, ticks, the policy worker — the
waiter has been released, or its marker is still buffered with at most `n` minus the number of
processor iterations taken so far ahead of it. -/
theorem wait_progress (su : Nat → Nat → Bool) (acts : List Act) :
    ∀ (c : Cache) (pre post : List Item) (id : Nat), c.buf = pre ++ Item.wait id :: post →
      id ∈ (Cache.run su c acts).released ∨
      ∃ pre' post', (Cache.run su c acts).buf = pre' ++ Item.wait id :: post' ∧
        pre'.length + procStepsTaken su c acts ≤ pre.length := by
  induction acts with
  | nil => intro c pre post id hb; exact Or.inr ⟨pre, post, hb, by simp [procStepsTaken]⟩
  | cons a rest ih =>
    intro c pre post id hb
    rw [procStepsTaken_cons, Cache.run]
    cases hs : c.step su a with
    | none => simpa using ih c pre post id hb
    | some c' =>
      rcases step_marker hs hb with h | ⟨pre', post', hb', hlen⟩
      · exact Or.inl (run_released_mono su rest c' id h)
      · rcases ih c' pre' post' id hb' with h | ⟨pre'', post'', h1, h2⟩
        · exact Or.inl h
        · refine Or.inr ⟨pre'', post'', h1, ?_⟩
          simp only [Option.isSome_some, Bool.and_true, Option.getD_some]
          omega

/-- **`wait()` returns**: as soon as the processor has made more iterations than there were items
ahead of the marker, the waiter is released — whatever every other actor did meanwhile. Under fairness
(the processor keeps being scheduled) every `wait()` therefore returns. -/
theorem wait_returns (su : Nat → Nat → Bool) (acts : List Act) (c : Cache) (pre post : List Item) (id : Nat)
    (hb : c.buf = pre ++ Item.wait id :: post) (henough : pre.length < procStepsTaken su c acts) :
    id ∈ (Cache.run su c acts).released ∧ (Cache.run su c acts).mayReturn id true = true := by
  rcases wait_progress su acts c pre post id hb with h | ⟨pre', post', _, h2⟩
  · exact ⟨h, by simp [Cache.mayReturn, h]⟩
  · omega

-- non-vacuity of `wait_returns`: one delete ahead of the marker, a client inserting in between, two
-- processor iterations — the premise holds and the waiter is released
def exCfg : Cfg := { itemSize := 56, ignoreInternal := false, bufCap := 4, ringCap := 2, pqCap := some 3, metricsOn := false }
def exStart : Cache := { Cache.init exCfg 100 5 with buf := [Item.delete 3 0, Item.wait 7] }
def exActs : List Act :=
  [.procItem (fun _ => 0) [], .insert 1 0 5 1 0 10 0 false, .procItem (fun _ => 0) []]
example : exStart.buf = [Item.delete 3 0] ++ Item.wait 7 :: [] := rfl
example : [Item.delete 3 0].length < procStepsTaken (fun _ _ => true) exStart exActs := by decide
example : 7 ∈ (Cache.run (fun _ _ => true) exStart exActs).released := by decide

end Stretto.C10

#print axioms Stretto.C10.no_lost_wakeup
#print axioms Stretto.C10.marker_released_at_head
#print axioms Stretto.C10.clients_only_append
#print axioms Stretto.C10.released_after_handling
#print axioms Stretto.C10.wait_progress
#print axioms Stretto.C10.wait_returns
#print axioms Stretto.C10.step_released_mono
