import StrettoModel.Proofs.TinyLFU
/-!
# C13 — Popularity estimates never undercount and decay by halving

Property theorems only; helper lemmas live in `Proofs/`.  Quantification: every sequence of
recorded hashes (arbitrary `Nat`s, in particular all 64-bit values), every seeds / mask / row
width with `mask < 2 * width` (which `CountMinSketch::new` establishes for every
`num_counters ≥ 1` once rows have at least one byte), every `samples`, every depth ≥ 1.
-/
namespace Stretto.C13
open Stretto

/-- a freshly constructed estimator -/
def fresh (seeds : List Nat) (width mask exp k samples : Nat) : TinyLFU :=
  { sk := Sketch.mk' seeds width mask, dk := { exp := exp, k := k, bits := [] },
    samples := samples, w := 0 }

theorem fresh_WF (seeds : List Nat) (width mask exp k samples : Nat)
    (hm : mask < 2 * width) (hs : seeds ≠ []) (hk : 0 < k) :
    (fresh seeds width mask exp k samples).WF :=
  ⟨Sketch.mk'_WF _ _ _ hm, by simpa [fresh, Sketch.mk'] using hs, hk⟩

/-- **counters saturate instead of wrapping** (the 512-row table of `CountMinRow::increment`):
the incremented 4-bit counter goes up by exactly one, its neighbour in the byte is untouched and
the byte stays a `u8`; a counter at 15 is left alone (`Row.inc` does nothing). -/
theorem rowInc_spec (b : Nat) (hb : b < 256) (odd : Bool) (h : nib b odd < 15) :
    nib (b + nibUnit odd) odd = nib b odd + 1 ∧
    nib (b + nibUnit odd) (!odd) = nib b (!odd) ∧ b + nibUnit odd < 256 :=
  nib_inc b hb odd h

/-- **index_in_range**: no hash value can index outside a row -/
theorem index_in_range (sk : Sketch) (hwf : sk.WF) (p : Nat × Row) (hp : p ∈ sk.rows) (h : Nat) :
    Sketch.idx sk.mask p.1 h / 2 < p.2.length :=
  Sketch.idx_in_range sk hwf p hp h

/-- **estimate_lower_bound**, from any state satisfying the invariant (a fresh estimator, one after
`clear`, or mid-stream): after recording any sequence `rec` of hashes, no step panics, and for
`since` = the hashes recorded since the last aging reset, every key `k` estimates at least
`min (number of times k was recorded since then) 16`, and at most 16. -/
theorem estimate_lower_bound_from (t0 : TinyLFU) (since0 rec : List Nat)
    (h0 : TinyLFU.Inv t0 since0) :
    ∃ t since, TinyLFU.runG t0 since0 rec = some (t, since) ∧
      ∀ key, ∃ e, t.estimate key = some e ∧ min (since.count key) 16 ≤ e ∧ e ≤ 16 := by
  obtain ⟨t, since, hrun, hinv⟩ := TinyLFU.runG_inv _ _ rec h0
  exact ⟨t, since, hrun, fun key => TinyLFU.estimate_of_inv t since hinv key⟩

/-- the same from a fresh estimator -/
theorem estimate_lower_bound (seeds : List Nat) (width mask exp k samples : Nat)
    (hm : mask < 2 * width) (hs : seeds ≠ []) (hk : 0 < k) (rec : List Nat) :
    ∃ t since, TinyLFU.runG (fresh seeds width mask exp k samples) [] rec = some (t, since) ∧
      ∀ key, ∃ e, t.estimate key = some e ∧ min (since.count key) 16 ≤ e ∧ e ≤ 16 :=
  estimate_lower_bound_from _ [] rec
    (TinyLFU.inv_nil _ (fresh_WF seeds width mask exp k samples hm hs hk))

/-- **fresh_zero**: on a fresh estimator every key estimates zero -/
theorem fresh_zero (seeds : List Nat) (width mask exp k samples : Nat)
    (hm : mask < 2 * width) (hs : seeds ≠ []) (hk : 0 < k) (key : Nat) :
    (fresh seeds width mask exp k samples).estimate key = some 0 :=
  TinyLFU.estimate_zero _ key (Sketch.estimate_mk' seeds width mask hm hs key)
    (Bloom.contains_reset ⟨exp, k, []⟩ hk key)

/-- **clear_zero**: after `clear()` every key estimates zero, whatever was recorded before -/
theorem clear_zero (t : TinyLFU) (hwf : t.WF) (key : Nat) : t.clear.estimate key = some 0 :=
  TinyLFU.estimate_zero _ key (Sketch.estimate_clear t.sk hwf.sk hwf.depth key)
    (Bloom.contains_reset t.dk hwf.probes key)

/-- **reset_halves**: the aging reset halves every counter of every key (rounding down) … -/
theorem reset_halves (sk : Sketch) (hwf : sk.WF) (h : Nat) (p' : Nat × Row)
    (hp' : p' ∈ sk.reset.rows) :
    ∃ p ∈ sk.rows, p'.1 = p.1 ∧
      p'.2.get (Sketch.idx sk.reset.mask p'.1 h) = (p.2.get (Sketch.idx sk.mask p.1 h)).map (· / 2) :=
  Sketch.get_reset sk hwf h p' hp'

/-- … and empties the doorkeeper and zeroes `w` -/
theorem reset_empties_doorkeeper (t : TinyLFU) (hwf : t.WF) (key : Nat) :
    t.reset.dk.contains key = false ∧ t.reset.w = 0 :=
  ⟨Bloom.contains_reset t.dk hwf.probes key, rfl⟩

/-- **reset_every_samples**: starting with `w < samples`, after `n` recorded accesses exactly
`(w + n) / samples` aging resets have fired and `w = (w + n) % samples`: the reset fires at every
`samples`-th recorded access and at no other time. -/
theorem reset_every_samples (t t' : TinyLFU) (n' : Nat) (rec : List Nat) (hpos : 0 < t.samples)
    (hw : t.w < t.samples) (hr : TinyLFU.runR t 0 rec = some (t', n')) :
    t'.w = (t.w + rec.length) % t.samples ∧ n' = (t.w + rec.length) / t.samples := by
  obtain ⟨_, hlt, heq⟩ := TinyLFU.runR_spec t t' 0 n' rec hw hr
  have : (t.w + rec.length) / t.samples = n' ∧ (t.w + rec.length) % t.samples = t'.w :=
    (Nat.div_mod_unique hpos).mpr
      ⟨by rw [Nat.add_comm, Nat.mul_comm, heq, Nat.zero_mul, Nat.zero_add], hlt⟩
  exact ⟨this.2.symm, this.1.symm⟩

/-- the step at which the reset fires is exactly the one reaching `samples` -/
theorem reset_fires_iff (t t' : TinyLFU) (h : Nat) (hi : t.increment h = some t') :
    t'.w = (if t.w + 1 ≥ t.samples then 0 else t.w + 1) ∧
    (t.w + 1 ≥ t.samples → t'.dk.bits = []) :=
  (TinyLFU.increment_w t t' h hi).2

-- non-vacuity: the hypotheses are met by a concrete non-trivial configuration ---------------
example : (fresh [1, 2, 3, 4] 4 7 9 7 8).WF := fresh_WF _ _ _ _ _ _ (by decide) (by decide) (by decide)
example : ∃ t since, TinyLFU.runG (fresh [11, 22, 33, 44] 4 7 9 7 100) [] [5, 5, 9, 5] = some (t, since) ∧
    t.estimate 5 = some 3 ∧ t.estimate 9 = some 1 ∧ t.estimate 6 = some 0 := by
  refine ⟨_, _, rfl, ?_, ?_, ?_⟩ <;> decide +kernel

end Stretto.C13

#print axioms Stretto.C13.rowInc_spec
#print axioms Stretto.C13.index_in_range
#print axioms Stretto.C13.estimate_lower_bound
#print axioms Stretto.C13.estimate_lower_bound_from
#print axioms Stretto.C13.fresh_zero
#print axioms Stretto.C13.clear_zero
#print axioms Stretto.C13.reset_halves
#print axioms Stretto.C13.reset_empties_doorkeeper
#print axioms Stretto.C13.reset_every_samples
#print axioms Stretto.C13.reset_fires_iff
