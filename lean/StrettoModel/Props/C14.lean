import StrettoModel.Proofs.Bloom
/-!
# C14 — Doorkeeper Bloom filter: no false negatives, reset empties, faithful addressing

The false-positive *rate* clause of C14 is not a theorem (no double-hashing Bloom filter satisfies
"FP ≤ c·p for every set of added hashes"); it is decided by the structural theorems below plus a
measurement on the real filter, labelled as a test, in the correspondence check.
-/
namespace Stretto.C14
open Stretto Bloom

/-- any interleaving of `add` and `contains_or_add` since the last reset -/
inductive Op | add (h : Nat) | containsOrAdd (h : Nat)

def Op.hash : Op → Nat | .add h => h | .containsOrAdd h => h

def apply (b : Bloom) : Op → Bloom
  | .add h => b.add h
  | .containsOrAdd h => (b.containsOrAdd h).1

def run (b : Bloom) (ops : List Op) : Bloom := ops.foldl apply b

theorem apply_eq (b : Bloom) (op : Op) :
    apply b op = b.add op.hash ∨ apply b op = b ∧ b.contains op.hash = true := by
  cases op with
  | add h => exact Or.inl rfl
  | containsOrAdd h =>
    by_cases hc : b.contains h = true
    · exact Or.inr ⟨by simp [apply, containsOrAdd, hc], hc⟩
    · exact Or.inl (by simp [apply, containsOrAdd, hc, Op.hash])

theorem apply_mono (b : Bloom) (op : Op) (g : Nat) (hc : b.contains g = true) :
    (apply b op).contains g = true := by
  rcases apply_eq b op with h | ⟨h, _⟩ <;> rw [h]
  · exact contains_add_mono b _ g hc
  · exact hc

theorem apply_self (b : Bloom) (op : Op) : (apply b op).contains op.hash = true := by
  rcases apply_eq b op with h | ⟨h, hc⟩ <;> rw [h]
  · exact contains_add_self b _
  · exact hc

theorem run_mono (b : Bloom) (ops : List Op) (g : Nat) (hc : b.contains g = true) :
    (run b ops).contains g = true :=
  List.foldlRecOn ops apply hc fun b hb op _ => apply_mono b op g hb

/-- **no_false_negatives**: for every filter state, every sequence of additions (through `add`
or `contains_or_add`) and every hash added by one of them, `contains` reports it present. -/
theorem no_false_negatives (b : Bloom) (ops : List Op) (op : Op) (hop : op ∈ ops) :
    (run b ops).contains op.hash = true := by
  obtain ⟨before, after, rfl⟩ := List.append_of_mem hop
  rw [run, List.foldl_append]
  exact run_mono _ after _ (apply_self _ op)

/-- **reset_empties / clear_empties**: with at least one probe per hash, an emptied filter
reports every hash absent (and holds no bit at all). -/
theorem reset_empties (b : Bloom) (hk : 0 < b.k) (h : Nat) :
    b.reset.contains h = false ∧ b.reset.bits = [] :=
  ⟨contains_reset b hk h, rfl⟩

/-- **addressing_faithful**: setting bit `i` sets exactly bit `i` … -/
theorem addressing_faithful (b : Bloom) (i j : Nat) :
    (b.set i).isSet j = (j == i || b.isSet j) := isSet_set b i j

/-- … and every probe position of every hash is a bit of the vector (`< 2 ^ exp`) -/
theorem probes_in_range (b : Bloom) (h i : Nat) : b.pos h i < b.nbits := pos_lt b h i

/-- **contains_iff_probes** -/
theorem contains_iff_probes (b : Bloom) (h : Nat) :
    b.contains h = true ↔ ∀ i < b.k, b.isSet (b.pos h i) = true :=
  Bloom.contains_iff_probes b h

/-- an `add` sets exactly the probe positions of the hash and nothing else -/
theorem add_sets_exactly_probes (b : Bloom) (h j : Nat) :
    (b.add h).isSet j = ((b.probes h).contains j || b.isSet j) := isSet_add b h j

theorem apply_bits_length (b : Bloom) (op : Op) :
    (apply b op).bits.length ≤ b.bits.length + b.k ∧ (apply b op).k = b.k := by
  rcases apply_eq b op with h | ⟨h, _⟩ <;> rw [h]
  · simp [add_eq, probes, Nat.add_comm]
  · simp

theorem run_bits_length (b : Bloom) (ops : List Op) :
    (run b ops).bits.length ≤ b.bits.length + ops.length * b.k ∧ (run b ops).k = b.k := by
  induction ops generalizing b with
  | nil => simp [run]
  | cons op ops ih =>
    obtain ⟨h1, h2⟩ := apply_bits_length b op
    obtain ⟨i1, i2⟩ := ih (apply b op)
    rw [h2] at i1 i2
    refine ⟨?_, i2⟩
    rw [List.length_cons, Nat.succ_mul]
    exact Nat.le_trans i1 (by omega)

/-- **set_bits_le**: after `n` additions to an empty filter at most `n · k` bits are set -/
theorem set_bits_le (b : Bloom) (ops : List Op) :
    (run b.reset ops).bits.length ≤ ops.length * b.k := by
  simpa [Bloom.reset] using (run_bits_length b.reset ops).1

-- non-vacuity ------------------------------------------------------------------------------
example : (run { exp := 9, k := 7, bits := [] } [.add 12345, .containsOrAdd 99]).contains 12345 = true := by
  decide +kernel
example : (Bloom.reset { exp := 9, k := 7, bits := [3] }).contains 12345 = false := by decide +kernel

end Stretto.C14

#print axioms Stretto.C14.no_false_negatives
#print axioms Stretto.C14.reset_empties
#print axioms Stretto.C14.addressing_faithful
#print axioms Stretto.C14.probes_in_range
#print axioms Stretto.C14.contains_iff_probes
#print axioms Stretto.C14.add_sets_exactly_probes
#print axioms Stretto.C14.set_bits_le
