import StrettoModel.Proofs.Policy
import StrettoModel.Proofs.Termination
/-!
# C07 — Admission and eviction follow the TinyLFU / sampled-LFU rule

Quantification: every charged set `l` (keys distinct, `used` = sum of charges, any `maxCost`, also
over-budget states), every estimate function `est`, every incoming `(key, cost)`, and every
sequence `refills` of what `fill_sample` appends at each iteration (i.e. every `HashMap` iteration
order). The theorems hold for *every* iteration the loop performs; `loop_terminates` bounds their number.
-/
namespace Stretto.C07
open Stretto

/-- **room_admits_clean**: when there is room a new key is always admitted and nothing is evicted
or changed. -/
theorem room_admits_clean (l : Lfu) (est : Nat → Int) (key : Nat) (cost : Int)
    (refills : List (List (Nat × Int))) (hinv : l.Inv) (hc : cost ≤ l.maxCost)
    (hnew : l.costs.get key = none) (hroom : l.roomLeft cost ≥ 0) :
    let R := policyAdd l est key cost refills
    R.added = true ∧ R.victims = none ∧ R.lfu.costs.get key = some cost ∧
      ∀ j, j ≠ key → R.lfu.costs.get j = l.costs.get j :=
  (policyAdd_spec l est key cost refills hinv).room hc hnew hroom

/-- **eviction rule, every iteration**: an iteration happens only while room is still lacking; the
victim it picks is an entry of the current sample, no entry of the sample is less popular than it,
and it is no more popular than the newcomer; an iteration that picks no victim is a rejection and
then every sampled candidate is strictly more popular than the newcomer. -/
theorem eviction_rule (l : Lfu) (est : Nat → Int) (key : Nat) (cost : Int)
    (refills : List (List (Nat × Int))) (hinv : l.Inv) :
    ∀ it ∈ (policyAdd l est key cost refills).log,
      it.room < 0 ∧
      match it.victim with
      | some v => v ∈ it.sample ∧ (∀ p ∈ it.sample, est v.1 ≤ est p.1) ∧ est v.1 ≤ est key
      | none => ∀ p ∈ it.sample, est key < est p.1 :=
  (policyAdd_spec l est key cost refills hinv).iters

/-- the victims returned are exactly the victims of the iterations, in order -/
theorem victims_are_iteration_victims (l : Lfu) (est : Nat → Int) (key : Nat) (cost : Int)
    (refills : List (List (Nat × Int))) (hinv : l.Inv)
    (h : (policyAdd l est key cost refills).log ≠ []) :
    (policyAdd l est key cost refills).victims =
      some ((policyAdd l est key cost refills).log.filterMap (·.victim)) :=
  (policyAdd_spec l est key cost refills hinv).victims_log h

/-- **reject_iff**: on the popularity path (new key, not oversize, no room) the newcomer is refused
exactly when some iteration found it strictly less popular than the least popular candidate. -/
theorem reject_iff (l : Lfu) (est : Nat → Int) (key : Nat) (cost : Int)
    (refills : List (List (Nat × Int))) (hinv : l.Inv) (hc : cost ≤ l.maxCost)
    (hnew : l.costs.get key = none) (hroom : l.roomLeft cost < 0)
    (hrun : (policyAdd l est key cost refills).stuck = false) :
    (policyAdd l est key cost refills).added = false ↔
      ∃ it ∈ (policyAdd l est key cost refills).log, it.victim = none :=
  (policyAdd_spec l est key cost refills hinv).reject_iff hc hnew hroom hrun

/-- **victims_released**: every victim's charge is released (even when the newcomer is then
rejected), and no other charge is touched. -/
theorem victims_released (l : Lfu) (est : Nat → Int) (key : Nat) (cost : Int)
    (refills : List (List (Nat × Int))) (hinv : l.Inv) :
    let R := policyAdd l est key cost refills
    (∀ it ∈ R.log, ∀ v, it.victim = some v → v.1 ≠ key → R.lfu.costs.get v.1 = none) ∧
    (∀ j, j ≠ key → R.lfu.costs.get j = none ∨ R.lfu.costs.get j = l.costs.get j) :=
  ⟨(policyAdd_spec l est key cost refills hinv).released,
   (policyAdd_spec l est key cost refills hinv).only_released⟩

/-- **sample size**: what `fill_sample` appends brings the sample to `samples` (= 5) entries, or — when
the residents do not suffice — to at least as many entries as there are charged keys ("five, or all if
fewer"), never beyond `samples`; entries are charged keys with their current cost. -/
theorem refill_size (l : Lfu) (n : Nat) (extras : List (Nat × Int))
    (hv : l.validRefill n extras = true) (hn : n < l.samples) :
    (n + extras.length = l.samples ∨ l.costs.length ≤ n + extras.length) ∧ n + extras.length ≤ l.samples ∧
    ∀ p ∈ extras, l.costs.get p.1 = some p.2 := by
  obtain ⟨hch, hfit, hfull⟩ := l.validRefill_spec n extras hv
  exact ⟨hfull hn, hfit (Nat.le_of_lt hn), hch⟩

/-- whichever of the equally unpopular candidates the tie-break oracle proposes (`tiePick`: the first one, as
the Rust scan `if hits < min_hits` finds it, the last one, any other), the entry taken is in the sample and
carries the minimum estimate of the whole sample; a proposal that is not a minimum is never taken. With the
oracle's default answer the first minimum is taken (`first_minimum_by_default`). -/
theorem victim_is_a_minimum (est : Nat → Int) (s : List (Nat × Int)) (i : Nat)
    (q : Nat × Int) (h : Int) (hm : minEntry est s = some (i, q, h)) :
    s[i]? = some q ∧ h = est q.1 ∧ ∀ p ∈ s, h ≤ est p.1 :=
  minEntry_spec est s i q h hm

/-- the oracle's default answer (index 0) reproduces the scan of the code as it stands: the first minimum -/
theorem first_minimum_by_default (est : Nat → Int) (s : List (Nat × Int))
    (h0 : tiePick est s = 0) : minEntry est s = minEntryFirst est s := by
  unfold minEntry
  split
  · exact (‹_› : minEntryFirst est s = none).symm
  · next i q h hf =>
    rw [h0, hf]
    split
    · next q' hs =>
      split
      · next heq =>
        -- the head is a minimum, so the scan for the first minimum stops there
        obtain ⟨hi, _, _, hfirst⟩ := minEntryFirst_spec est s i q h hf
        cases i with
        | zero => rw [hs] at hi; cases hi; rfl
        | succ i => exact absurd heq (Int.ne_of_gt (hfirst 0 q' (Nat.succ_pos i) hs))
      · rfl
    · rfl

/-- **the tie-break is free**: every entry of the sample that carries the minimum estimate can be the one
taken — there is an answer of the oracle for which `minEntry` returns exactly that entry (the rule C07 states
does not single one out) -/
theorem tie_break_is_free (est : Nat → Int) (s : List (Nat × Int)) (j : Nat) (q : Nat × Int)
    (hj : s[j]? = some q) (hmin : ∀ p ∈ s, est q.1 ≤ est p.1) (hpick : tiePick est s = j) :
    minEntry est s = some (j, q, est q.1) := by
  unfold minEntry
  split
  · next hf => rw [(minEntryFirst_none est s).mp hf] at hj; cases hj
  · next i0 q0 h0 hf =>
    obtain ⟨h1, h2, h3, _⟩ := minEntryFirst_spec est s i0 q0 h0 hf
    have heq : est q.1 = h0 :=
      Int.le_antisymm (h2 ▸ hmin q0 (List.mem_of_getElem? h1)) (h3 q (List.mem_of_getElem? hj))
    simp only [hpick, hj, heq, if_true]

/-- **loop_terminates**: "evicted one at a time only while room is still lacking" is a loop without an
explicit bound in the code. Offered `#charged · samples + 1` iterations whose refills are what
`fill_sample` may produce (`RefillsOk`), `policy.add` finishes — admitted or rejected — without using
them up: each iteration that continues either releases a charged key or discards a stale duplicate of a
key it released earlier, and refills only ever add charged keys. -/
theorem loop_terminates (l : Lfu) (est : Nat → Int) (key : Nat) (cost : Int)
    (refills : List (List (Nat × Int))) (hinv : l.Inv)
    (hok : RefillsOk est (est key) cost l [] refills)
    (hmany : l.costs.length * l.samples < refills.length) :
    (policyAdd l est key cost refills).stuck = false :=
  policyAdd_terminates l est key cost refills hinv hok hmany

-- non-vacuity -------------------------------------------------------------------------------
/-- a concrete over-budget admission: three residents, newcomer needs two victims -/
def exLfu : Lfu := { costs := [(1, 4), (2, 4), (3, 4)], used := 12, maxCost := 12, samples := 5 }
def exEst : Nat → Int := fun k => if k = 9 then 3 else if k = 1 then 1 else 2
example : exLfu.Inv := ⟨by simp [KMap.WF, KMap.keys, exLfu], by decide⟩
example : (policyAdd exLfu exEst 9 6 [[(1, 4), (2, 4), (3, 4)], [], []]).added = true ∧
    (policyAdd exLfu exEst 9 6 [[(1, 4), (2, 4), (3, 4)], [], []]).victims = some [(1, 4), (3, 4)] ∧
    (policyAdd exLfu exEst 9 6 [[(1, 4), (2, 4), (3, 4)], [], []]).stuck = false := by decide
example : (policyAdd exLfu (fun k => if k = 9 then 0 else 2) 9 6 [[(1, 4), (2, 4), (3, 4)]]).added = false ∧
    (policyAdd exLfu (fun k => if k = 9 then 0 else 2) 9 6 [[(1, 4), (2, 4), (3, 4)]]).stuck = false := by decide

end Stretto.C07

#print axioms Stretto.C07.room_admits_clean
#print axioms Stretto.C07.eviction_rule
#print axioms Stretto.C07.victims_are_iteration_victims
#print axioms Stretto.C07.reject_iff
#print axioms Stretto.C07.victims_released
#print axioms Stretto.C07.refill_size
#print axioms Stretto.C07.victim_is_a_minimum
#print axioms Stretto.C07.first_minimum_by_default
#print axioms Stretto.C07.tie_break_is_free
#print axioms Stretto.C07.loop_terminates
