import StrettoModel.Model.Builder
import StrettoModel.Props.C10
import StrettoModel.Props.C13
import StrettoModel.Props.C15
/-!
# C20 — Every accepted configuration yields a working cache

Accepted = `num_counters ≥ 1`, `max_cost ≠ 0`, insert buffer size `≥ 1`, any `buffer_items`, either
setting of metrics / ignore_internal_cost. (`num_counters`, buffer sizes: values whose allocation
succeeds; an allocation failure aborts the process and is not a model outcome.)
"Working" has three parts here: (1) `finalize` verdicts; (2) no panic: every `Vec` index of the
estimator is in range for every accepted sizing, for every hash — the other components of the model
are total functions with no partial operation; (3) completion: blocked calls are always released
(C10, C12), and the deadlock found in `get_ttl` (F15) is checked by the live-mode oracle test.
-/
namespace Stretto.C20
open Stretto

/-- **finalize_rejects**: zero `num_counters`, `max_cost`, buffer size are rejected with
`InvalidNumCounters`, `InvalidMaxCost`, `InvalidBufferSize`, in that order of precedence; every other
combination is accepted. -/
theorem finalize_rejects (n : Nat) (mc : Int) (b : Nat) :
    (n = 0 → finalizeCheck n mc b = .invalidNumCounters) ∧
    (n ≠ 0 → mc = 0 → finalizeCheck n mc b = .invalidMaxCost) ∧
    (n ≠ 0 → mc ≠ 0 → b = 0 → finalizeCheck n mc b = .invalidBufferSize) ∧
    (n ≠ 0 → mc ≠ 0 → b ≠ 0 → finalizeCheck n mc b = .ok) := by
  simp +contextual [finalizeCheck]

theorem accepted_iff (n : Nat) (mc : Int) (b : Nat) :
    finalizeCheck n mc b = .ok ↔ n ≠ 0 ∧ mc ≠ 0 ∧ b ≠ 0 := by
  unfold finalizeCheck
  by_cases h1 : n = 0 <;> by_cases h2 : mc = 0 <;> by_cases h3 : b = 0 <;> simp [h1, h2, h3]

/-- **sketch sizing**: for every power of two `ctrs = 2^e` (what `next_power_of_two` yields for every
`num_counters ≥ 1`, including 1), rows of `max (ctrs / 2) 1` bytes and mask `ctrs - 1` satisfy the
well-formedness hypothesis of the estimator theorems: `mask < 2 · width`. -/
theorem sketch_sizing_wf (e : Nat) : 2 ^ e - 1 < 2 * max (2 ^ e / 2) 1 := by
  cases e with
  | zero => decide
  | succ n =>
    have hpos : 0 < 2 ^ n := Nat.two_pow_pos n
    rw [Nat.pow_succ, Nat.mul_comm, Nat.mul_div_cancel_left _ (by decide : 0 < 2),
      Nat.max_eq_left hpos]
    exact Nat.sub_lt (Nat.mul_pos (by decide) hpos) (by decide)

/-- **no panic in the estimator**: with such a sizing, at least one row and one Bloom probe, recording
any sequence of hashes never indexes out of bounds (every step returns), and every estimate query
returns. -/
theorem estimator_never_panics (seeds : List Nat) (e exp k samples : Nat) (hs : seeds ≠ []) (hk : 0 < k)
    (rec : List Nat) (q : Nat) :
    ∃ t since, TinyLFU.runG ⟨Sketch.mk' seeds (max (2 ^ e / 2) 1) (2 ^ e - 1), ⟨exp, k, []⟩, samples, 0⟩ [] rec
        = some (t, since) ∧ ∃ v, t.estimate q = some v := by
  obtain ⟨t, since, hrun, hest⟩ :=
    C13.estimate_lower_bound seeds _ _ exp k samples (sketch_sizing_wf e) hs hk rec
  obtain ⟨v, hv, _⟩ := hest q
  exact ⟨t, since, hrun, v, hv⟩

/-- the metrics stripe of every hash is inside the 256-slot array -/
theorem stripe_in_range (h : Nat) : (h % 25) * 10 < 256 := by omega

/-- the get ring works for every `buffer_items`, 0 and 1 included: a push either keeps the batch
pending (below capacity) or flushes it whole and leaves the ring empty -/
theorem ring_any_capacity (c : Cache) (k : Nat) :
    (c.ringPush k).ring = [] ∨ ((c.ringPush k).ring = c.ring ++ [k] ∧ (c.ring ++ [k]).length < c.cfg.ringCap) := by
  cases C15.ring_push_recorded c k with
  | pending h hlt _ _ => exact Or.inr ⟨h, hlt⟩
  | kept h _ _ | dropped h _ _ _ | closed h _ _ _ => exact Or.inl h

theorem ring_zero_or_one_flushes_every_push (c : Cache) (k : Nat) (h : c.cfg.ringCap ≤ 1) :
    (c.ringPush k).ring = [] := by
  rcases ring_any_capacity c k with h1 | ⟨_, h2⟩
  · exact h1
  · simp at h2; omega

/-- completion of blocked calls: re-exported from C10 — a buffered wait marker stays served through
every step, and the processor's stop iteration releases it -/
theorem blocked_calls_are_released (su : Nat → Nat → Bool) (c c' : Cache) (a : Act)
    (hs : c.step su a = some c') (id : Nat) (h : C10.Served c id) : C10.Served c' id :=
  C10.no_lost_wakeup su c c' a hs id h

-- non-vacuity ---------------------------------------------------------------------------------
example : finalizeCheck 0 0 0 = .invalidNumCounters ∧ finalizeCheck 1 0 0 = .invalidMaxCost ∧
          finalizeCheck 1 (-3) 0 = .invalidBufferSize ∧ finalizeCheck 1 (-3) 1 = .ok := by decide

/-- the value the last call for a field gave it, or the field's default -/
def lastOf {α : Type} (pick : Setter → Option α) (dflt : α) (calls : List Setter) : α :=
  ((calls.reverse.filterMap pick).head?).getD dflt

theorem lastOf_cons {α : Type} (pick : Setter → Option α) (dflt : α) (s : Setter)
    (rest : List Setter) :
    lastOf pick dflt (s :: rest) = lastOf pick ((pick s).getD dflt) rest := by
  unfold lastOf
  simp only [List.reverse_cons, List.filterMap_append, List.filterMap_cons, List.filterMap_nil,
    List.head?_append]
  cases pick s <;> cases (List.filterMap pick rest.reverse).head? <;> rfl

theorem foldl_set_field {α : Type} (proj : BuilderCore → α) (pick : Setter → Option α)
    (hset : ∀ b s, proj (b.set s) = (pick s).getD (proj b)) (calls : List Setter) (b : BuilderCore) :
    proj (calls.foldl BuilderCore.set b) = lastOf pick (proj b) calls := by
  induction calls generalizing b with
  | nil => rfl
  | cons s rest ih => rw [List.foldl_cons, ih, hset, lastOf_cons]

/-- **the last call for each field wins, whatever the order of the calls** — in particular the five
type-changing setters (`set_key_builder`, `set_coster`, `set_update_validator`, `set_callback`,
`set_hasher`), wherever they stand in the chain, leave every plain setting as it was; and an accepted
configuration hands each setting to the component that uses it: `num_counters` to the estimator,
`max_cost` to the policy, `buffer_items` to the get ring, the buffer size to the insert buffer, the two
flags and the cleanup interval to the processor. -/
theorem build_uses_last_settings (n : Nat) (mc : Int) (calls : List Setter) (e : Effective)
    (h : buildWith n mc calls = .ok e) :
    e.numCounters = lastOf (fun | .numCounters v => some v | _ => none) n calls ∧
    e.maxCost = lastOf (fun | .maxCost v => some v | _ => none) mc calls ∧
    e.ringCap = lastOf (fun | .bufferItems v => some v | _ => none) 64 calls ∧
    e.bufCap = lastOf (fun | .bufferSize v => some v | _ => none) 32768 calls ∧
    e.metricsOn = lastOf (fun | .metrics v => some v | _ => none) false calls ∧
    e.ignoreInternalCost = lastOf (fun | .ignoreInternal v => some v | _ => none) false calls ∧
    e.cleanupNs = lastOf (fun | .cleanup v => some v | _ => none) 2000000000 calls := by
  unfold buildWith BuilderCore.finalize at h
  split at h
  · cases h
    refine ⟨?_, ?_, ?_, ?_, ?_, ?_, ?_⟩
    · exact foldl_set_field (·.numCounters) _ (by intro b s; cases s <;> rfl) calls _
    · exact foldl_set_field (·.maxCost) _ (by intro b s; cases s <;> rfl) calls _
    · exact foldl_set_field (·.bufferItems) _ (by intro b s; cases s <;> rfl) calls _
    · exact foldl_set_field (·.insertBufferSize) _ (by intro b s; cases s <;> rfl) calls _
    · exact foldl_set_field (·.metrics) _ (by intro b s; cases s <;> rfl) calls _
    · exact foldl_set_field (·.ignoreInternalCost) _ (by intro b s; cases s <;> rfl) calls _
    · exact foldl_set_field (·.cleanupNs) _ (by intro b s; cases s <;> rfl) calls _
  · cases h

/-- and the chain is accepted exactly when the last `num_counters`, `max_cost` and buffer size are non-zero -/
theorem build_accepted_iff (n : Nat) (mc : Int) (calls : List Setter) :
    (∃ e, buildWith n mc calls = .ok e) ↔
      lastOf (fun | .numCounters v => some v | _ => none) n calls ≠ 0 ∧
      lastOf (fun | .maxCost v => some v | _ => none) mc calls ≠ 0 ∧
      lastOf (fun | .bufferSize v => some v | _ => none) 32768 calls ≠ 0 := by
  have h1 := foldl_set_field (·.numCounters) (fun | .numCounters v => some v | _ => none)
    (by intro b s; cases s <;> rfl) calls { numCounters := n, maxCost := mc }
  have h2 := foldl_set_field (·.maxCost) (fun | .maxCost v => some v | _ => none)
    (by intro b s; cases s <;> rfl) calls { numCounters := n, maxCost := mc }
  have h3 := foldl_set_field (·.insertBufferSize) (fun | .bufferSize v => some v | _ => none)
    (by intro b s; cases s <;> rfl) calls { numCounters := n, maxCost := mc }
  simp only at h1 h2 h3
  rw [← h1, ← h2, ← h3, ← accepted_iff]
  unfold buildWith BuilderCore.finalize
  constructor
  · rintro ⟨e, he⟩
    split at he
    · assumption
    · cases he
  · intro h
    exact ⟨_, by rw [h]⟩

example : buildWith 100 50 [.cleanup 50000000, .bufferSize 8, .ignoreInternal true, .hasher 1, .callback 2] =
    .ok { numCounters := 100, maxCost := 50, ringCap := 64, bufCap := 8, metricsOn := false,
          ignoreInternalCost := true, cleanupNs := 50000000 } := by rfl

end Stretto.C20

#print axioms Stretto.C20.finalize_rejects
#print axioms Stretto.C20.accepted_iff
#print axioms Stretto.C20.sketch_sizing_wf
#print axioms Stretto.C20.estimator_never_panics
#print axioms Stretto.C20.stripe_in_range
#print axioms Stretto.C20.ring_any_capacity
#print axioms Stretto.C20.ring_zero_or_one_flushes_every_push
#print axioms Stretto.C20.blocked_calls_are_released
#print axioms Stretto.C20.build_uses_last_settings
#print axioms Stretto.C20.build_accepted_iff
