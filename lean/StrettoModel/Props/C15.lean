import StrettoModel.Proofs.TinyLFU
import StrettoModel.Proofs.Metrics
import StrettoModel.Proofs.Step
/-!
# C15 — Lookups feed the popularity estimator, lossily but accountably

Quantification: every cache state, every key, every `buffer_items` (0 and 1 included), bounded and
unbounded policy queue. What the policy worker does with a kept batch is C13's subject
(`TinyLFU.increments`); the link is `kept_batch_reaches_estimator`.
-/
namespace Stretto.C15
open Stretto

/-- outcome of recording one lookup -/
inductive Recorded (c c' : Cache) (k : Nat) : Prop
  /-- the batch is not full yet: the key waits in the ring -/
  | pending : c'.ring = c.ring ++ [k] → (c.ring ++ [k]).length < c.cfg.ringCap → c'.pq = c.pq →
      c'.metrics = c.metrics → Recorded c c' k
  /-- the batch was flushed and kept: queued for the policy worker, counted once as kept -/
  | kept : c'.ring = [] → c'.pq = c.pq ++ [c.ring ++ [k]] →
      (c.cfg.metricsOn = true → c'.metrics = { c.metrics with keepGets := u64 (c.metrics.keepGets + (c.ring ++ [k]).length) }) →
      Recorded c c' k
  /-- the batch was flushed and lost because the bounded queue was full: counted once as dropped -/
  | dropped : c'.ring = [] → c'.pq = c.pq → (∃ cap, c.cfg.pqCap = some cap ∧ cap ≤ c.pq.length) →
      (c.cfg.metricsOn = true → c'.metrics = { c.metrics with dropGets := u64 (c.metrics.dropGets + (c.ring ++ [k]).length) }) →
      Recorded c c' k
  /-- the policy is closed: the batch is discarded, uncounted -/
  | closed : c'.ring = [] → c'.pq = c.pq → c.policyClosed = true → c'.metrics = c.metrics → Recorded c c' k

/-- **every_lookup_recorded / flush_when_full / flush_accounted_once / lost_only_if_full_or_closed**:
`RingStripe::push` appends the key and, exactly when the batch has reached `buffer_items`, flushes
the whole batch, which is then accounted exactly once — kept or dropped — unless the policy is
closed; it is dropped only when the bounded queue is full. -/
theorem ring_push_recorded (c : Cache) (k : Nat) : Recorded c (c.ringPush k) k := by
  rcases Cache.ringPush_cases c k with ⟨hlt, h⟩ | ⟨-, ⟨hcl, h⟩ | ⟨-, -, h⟩ | ⟨-, hcap, h⟩⟩ <;> rw [h]
  · exact .pending rfl hlt rfl rfl
  · exact .closed rfl rfl hcl rfl
  · exact .kept (by simp) (by simp) fun hon => by simp [Cache.met_metrics, hon]
  · exact .dropped (by simp) (by simp) hcap fun hon => by simp [Cache.met_metrics, hon]

/-- every `get` / `get_mut` on an open cache records its key before consulting the store, hit or miss -/
theorem get_records (c : Cache) (k cf now : Nat) (hopen : c.closed = false) :
    (c.get k cf now).1.ring = (c.ringPush k).ring ∧ (c.get k cf now).1.pq = (c.ringPush k).pq := by
  simp [Cache.get_eq c k cf now hopen]

theorem get_mut_records (c : Cache) (k cf now v : Nat) (hopen : c.closed = false) :
    (c.getMutWrite k cf now v).1.ring = (c.ringPush k).ring ∧
    (c.getMutWrite k cf now v).1.pq = (c.ringPush k).pq := by
  rw [Cache.getMutWrite_eq c k cf now v hopen]; split <;> simp

/-- with `buffer_items` 0 or 1 every lookup is its own batch -/
theorem tiny_ring_flushes_each_lookup (c : Cache) (k : Nat) (h : c.cfg.ringCap ≤ 1) (hr : c.ring = []) :
    (c.ringPush k).ring = [] ∧ (c.policyClosed = false → (∀ cap, c.cfg.pqCap = some cap → c.pq.length < cap) →
      (c.ringPush k).pq = c.pq ++ [[k]]) := by
  have := ring_push_recorded c k
  cases this with
  | pending _ hlt _ _ => simp [hr] at hlt; omega
  | kept h1 h2 _ => exact ⟨h1, fun _ _ => by simpa [hr] using h2⟩
  | dropped h1 _ hcap _ =>
    refine ⟨h1, fun _ hroom => ?_⟩
    obtain ⟨cap, hc, hle⟩ := hcap
    have := hroom cap hc; omega
  | closed h1 _ hcl _ => exact ⟨h1, fun ho _ => by rw [ho] at hcl; cases hcl⟩

/-- the unbounded queue of the async flavour never drops a batch -/
theorem unbounded_queue_never_drops (c : Cache) (k : Nat) (hq : c.cfg.pqCap = none) :
    (c.ringPush k).metrics.dropGets = c.metrics.dropGets := by
  rcases Cache.ringPush_cases c k with ⟨-, h⟩ | ⟨-, ⟨-, h⟩ | ⟨-, -, h⟩ | ⟨-, ⟨cap, hcap, -⟩, -⟩⟩
  · rw [h]
  · rw [h]
  · rw [h, Cache.met_metrics]; split <;> rfl
  · rw [hq] at hcap; cases hcap

/-- **kept_batch_reaches_estimator**: the policy worker takes the batches in FIFO order, one per
step, and hands the whole batch to `TinyLFU::increments` -/
theorem worker_takes_oldest_batch (c : Cache) (b : List Nat) (rest : List (List Nat)) (h : c.pq = b :: rest) :
    c.policyWorkerStep = some ({ c with pq := rest }, b) := by
  simp [Cache.policyWorkerStep, h]

/-- and after `increments` of a batch on a well-formed estimator (C13's invariant) every key of the
batch estimates at least as many hits as it has occurrences since the last aging reset -/
theorem kept_batch_reaches_estimator (t : TinyLFU) (since batch : List Nat) (hinv : TinyLFU.Inv t since) :
    ∃ t' since', TinyLFU.runG t since batch = some (t', since') ∧
      ∀ k, ∃ e, t'.estimate k = some e ∧ min (since'.count k) 16 ≤ e := by
  obtain ⟨t', s', hrun, hinv'⟩ := TinyLFU.runG_inv t since batch hinv
  exact ⟨t', s', hrun, fun k => by
    obtain ⟨e, he, hle, _⟩ := TinyLFU.estimate_of_inv t' s' hinv' k
    exact ⟨e, he, hle⟩⟩

-- every lookup accounted, over whole runs -------------------------------------------------------------

/-- ghost: the number of lookups (`get`, `get_mut`) made on the open cache since the last served
`clear()` — at a served `clear()` the count restarts from the keys still pending in the batch, which a
clear does not discard -/
def ghostKD (c : Cache) (n : Nat) : Act → Nat
  | .get _ _ _ => if c.closed then n else n + 1
  | .getMut _ _ _ _ => if c.closed then n else n + 1
  | .procClear => if c.procClear.isSome then c.ring.length else n
  | _ => n

def lookupsAccounted (su : Nat → Nat → Bool) : Cache → Nat → List Act → Nat
  | _, n, [] => n
  | c, n, a :: rest => lookupsAccounted su ((c.step su a).getD c) (ghostKD c n a) rest

/-- while the policy is open: `gets_kept + gets_dropped + #pending = lookups`, mod 2^64 -/
def KD (c : Cache) (n : Nat) : Prop :=
  c.cfg.metricsOn = true → c.policyClosed = false →
    ((c.metrics.keepGets : Int) + c.metrics.dropGets + c.ring.length - n) % 18446744073709551616 = 0

theorem KD.congr {c c' : Cache} {n : Nat} (hi : KD c n)
    (h : c'.cfg = c.cfg ∧ c'.policyClosed = c.policyClosed ∧ c'.ring = c.ring ∧
      c'.metrics.keepGets = c.metrics.keepGets ∧ c'.metrics.dropGets = c.metrics.dropGets) : KD c' n := by
  obtain ⟨h1, h2, h3, h4, h5⟩ := h
  unfold KD; rw [h1, h2, h3, h4, h5]; exact hi

theorem ringPush_KD (c : Cache) (k n : Nat) (hi : KD c n) : KD (c.ringPush k) (n + 1) := by
  intro hon hp
  have h0 := hi (by simpa using hon) (by simpa using hp)
  rcases Cache.ringPush_cases c k with ⟨-, h⟩ | ⟨-, ⟨hcl, h⟩ | ⟨-, -, h⟩ | ⟨-, -, h⟩⟩ <;> rw [h] at hon hp ⊢
  · simp only [List.length_append, List.length_cons, List.length_nil]; omega
  · rw [hcl] at hp; cases hp
  · have := u64_cast ((c.metrics.keepGets : Int) + ((c.ring ++ [k]).length : Nat))
    simp only [Cache.met_frame] at hon
    simp only [Cache.met_frame, Cache.met_metrics, hon, if_true, List.length_append, List.length_cons,
      List.length_nil] at this ⊢
    omega
  · have := u64_cast ((c.metrics.dropGets : Int) + ((c.ring ++ [k]).length : Nat))
    simp only [Cache.met_frame] at hon
    simp only [Cache.met_frame, Cache.met_metrics, hon, if_true, List.length_append, List.length_cons,
      List.length_nil] at this ⊢
    omega

/-- one step of any actor keeps the accounting -/
theorem step_KD (su : Nat → Nat → Bool) (c c' : Cache) (a : Act) (n : Nat) (hs : c.step su a = some c')
    (hi : KD c n) : KD c' (ghostKD c n a) := by
  apply step_induction (motive := fun a c' => KD c' (ghostKD c n a)) hs
  case get =>
    intro k cf now
    rcases Bool.eq_false_or_eq_true c.closed with h | h
    · simpa [Cache.get, h, ghostKD] using hi
    · rw [Cache.get_eq c k cf now h]
      simp only [ghostKD, h, Bool.false_eq_true, if_false]
      exact (ringPush_KD c k n hi).congr
        (by simp [Cache.met_metrics, apply_ite Metrics.keepGets, apply_ite Metrics.dropGets])
  case getMut =>
    intro k cf now v
    rcases Bool.eq_false_or_eq_true c.closed with h | h
    · simpa [Cache.getMutWrite, h, ghostKD] using hi
    · rw [Cache.getMutWrite_eq c k cf now v h]
      simp only [ghostKD, h, Bool.false_eq_true, if_false]
      split <;> exact (ringPush_KD c k n hi).congr
        (by simp [Cache.met_metrics, apply_ite Metrics.keepGets, apply_ite Metrics.dropGets])
  case procItem =>
    intro est refills c' h
    obtain ⟨-, it, rest, -, rfl⟩ := Cache.procItem_some h
    exact hi.congr (by simp)
  case procClear =>
    intro c' h
    obtain ⟨-, id, rest, -, rfl⟩ := Cache.procClear_some h
    intro _ _
    simp [ghostKD, h]
  case procTick =>
    intro now order c' h
    obtain ⟨-, rfl⟩ := Cache.procTick_some h
    exact hi.congr (by simp)
  case procStop => intro c' h; obtain ⟨-, rfl⟩ := Cache.procStop_some h; exact hi
  case policyClose => intro _ hp; cases hp
  all_goals intros; exact hi.congr (by simp)

theorem ghostKD_disabled (su : Nat → Nat → Bool) (c : Cache) (n : Nat) (a : Act) (hs : c.step su a = none) :
    ghostKD c n a = n := by
  cases a <;> simp_all [ghostKD, Cache.step]

/-- **every lookup is accounted exactly once, over every run**: after any run of any actors from the
builder's state, as long as the policy has not been closed, `gets_kept + gets_dropped` plus the keys
still pending in the batch equals (mod 2^64) the number of lookups made on the open cache since the
last served `clear()` — no lookup is counted twice, none disappears uncounted. -/
theorem lookups_accounted (su : Nat → Nat → Bool) (cfg : Cfg) (maxCost : Int) (samples : Nat) (acts : List Act)
    (hon : cfg.metricsOn = true)
    (hopen : (Cache.run su (Cache.init cfg maxCost samples) acts).policyClosed = false) :
    let c := Cache.run su (Cache.init cfg maxCost samples) acts
    ((c.metrics.keepGets : Int) + c.metrics.dropGets + c.ring.length
      - lookupsAccounted su (Cache.init cfg maxCost samples) 0 acts) % 18446744073709551616 = 0 :=
  Cache.run_ghost_induction (I := KD) (G := lookupsAccounted su) (fun _ _ => rfl) (fun _ _ _ _ => rfl)
    (fun c n a c' hi hs => step_KD su c c' a n hs hi) (fun c n a hi hs => (ghostKD_disabled su c n a hs).symm ▸ hi) acts _ 0 (fun _ _ => rfl)
    (by rw [run_cfg]; exact hon) hopen


-- non-vacuity ---------------------------------------------------------------------------------
def exCfg : Cfg := { itemSize := 56, ignoreInternal := false, bufCap := 4, ringCap := 2, pqCap := some 1, metricsOn := true }
example : (((Cache.init exCfg 100 5).ringPush 7).ringPush 8).pq = [[7, 8]] ∧
          (((((Cache.init exCfg 100 5).ringPush 7).ringPush 8).ringPush 9).ringPush 10).metrics.dropGets = 2 := by
  decide

-- `lookups_accounted` on a concrete run: ring of 2, queue of 1, no policy worker: three batches are
-- flushed (one kept, two dropped), one key is pending, seven lookups were made
def exLookups : List Act := [.get 1 0 0, .get 2 0 0, .get 1 0 0, .get 3 0 0, .getMut 4 0 0 9, .get 1 0 0, .get 5 0 0]
example : ((Cache.run (fun _ _ => true) (Cache.init exCfg 100 5) exLookups).metrics.keepGets,
           (Cache.run (fun _ _ => true) (Cache.init exCfg 100 5) exLookups).metrics.dropGets,
           (Cache.run (fun _ _ => true) (Cache.init exCfg 100 5) exLookups).ring.length,
           lookupsAccounted (fun _ _ => true) (Cache.init exCfg 100 5) 0 exLookups,
           (Cache.run (fun _ _ => true) (Cache.init exCfg 100 5) exLookups).policyClosed) = (2, 4, 1, 7, false) := by decide

end Stretto.C15

#print axioms Stretto.C15.ring_push_recorded
#print axioms Stretto.C15.get_records
#print axioms Stretto.C15.get_mut_records
#print axioms Stretto.C15.tiny_ring_flushes_each_lookup
#print axioms Stretto.C15.unbounded_queue_never_drops
#print axioms Stretto.C15.worker_takes_oldest_batch
#print axioms Stretto.C15.kept_batch_reaches_estimator
#print axioms Stretto.C15.step_KD
#print axioms Stretto.C15.lookups_accounted
